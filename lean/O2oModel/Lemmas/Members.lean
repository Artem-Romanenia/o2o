/-
The member list `struct_init_block` hands to the descent: grouping by first-seen path, then a stable sort by group
index. The sort permutes; every entry comes from a member, from a struct-level ghost that opened a nested struct of its
own, or from a nested field of a `#[parent(..)]` list.
-/
import O2oModel.Expand
namespace O2o

theorem insertByGr_perm (x : FieldContainer) (xs : List FieldContainer) : List.Perm (insertByGr x xs) (x :: xs) := by
  induction xs with
  | nil => exact List.Perm.refl _
  | cons y ys ih =>
    unfold insertByGr
    split
    · exact List.Perm.refl _
    · exact List.Perm.trans (List.Perm.cons y ih) (List.Perm.swap x y ys)

theorem sortByGr_perm (xs : List FieldContainer) : List.Perm (sortByGr xs) xs := by
  unfold sortByGr
  induction xs with
  | nil => exact List.Perm.refl _
  | cons x xs ih =>
    simp only [List.foldr_cons]
    exact List.Perm.trans (insertByGr_perm x _) (List.Perm.cons x ih)

theorem mem_sortByGr (y : FieldContainer) (l : List FieldContainer) : y ∈ sortByGr l → y ∈ l :=
  (sortByGr_perm l).mem_iff.mp

theorem makeTuple_keeps_root (gp : GroupPaths) (path : String) (fd : FieldData) (h : (gp.find? (·.1 == "")).isSome = true) :
    ((makeTuple gp path fd).1.find? (·.1 == "")).isSome = true := by
  unfold makeTuple
  split
  · exact h
  · simp only [List.find?_append]
    cases hf : gp.find? (·.1 == "") with
    | none => simp [hf] at h
    | some v => simp

theorem makeTuple_data (gp : GroupPaths) (path : String) (fd : FieldData) : (makeTuple gp path fd).2.1.fieldData = fd := by
  unfold makeTuple
  split <;> rfl

def FromInput (input : Struct) (ctx : ImplContext) (fc : FieldContainer) : Prop :=
  (∃ x ∈ input.fields, fc.fieldData = .field x) ∨
  (∃ ga, input.attrs.ghostsAttr ctx.ty ctx.kind = some ga ∧ ∃ g ∈ ga.ghostData, ∃ cp, g.childPath = some cp ∧
      fc.fieldData = .ghostData g) ∨
  (∃ x ∈ input.fields, ∃ ps pc, (x.attrs.parameterizedParentAttr ctx.ty).bind (·.childFields) = some ps ∧ pc ∈ ps ∧
      fc.fieldData = .parentChildField x pc)

def GroupInvP (P : FieldContainer → Prop) (st : GroupPaths × List FieldContainer) : Prop :=
  (st.1.find? (·.1 == "")).isSome = true ∧ ∀ fc ∈ st.2, P fc

theorem GroupInvP.push {P : FieldContainer → Prop} {st : GroupPaths × List FieldContainer} {path : String} {fd : FieldData}
    (h : GroupInvP P st) (hfd : ∀ fc, fc.fieldData = fd → P fc) :
    GroupInvP P ((makeTuple st.1 path fd).1, st.2 ++ [(makeTuple st.1 path fd).2.1]) :=
  ⟨makeTuple_keeps_root _ _ _ h.1, List.forall_mem_append.mpr ⟨h.2, List.forall_mem_singleton.mpr (hfd _ (makeTuple_data _ _ _))⟩⟩

theorem groupedMembers_from (input : Struct) (ctx : ImplContext) (fc : FieldContainer) (h : fc ∈ groupedMembers input ctx) :
    FromInput input ctx fc := by
  unfold groupedMembers at h
  have h0 : GroupInvP (FromInput input ctx) (([("", 0)], []) : GroupPaths × List FieldContainer) := ⟨rfl, by simp⟩
  have h1 := List.foldlRecOn (motive := GroupInvP (FromInput input ctx)) input.fields (fieldGroupStep ctx) h0 (fun st hst x hx => ?_)
  have h2 := List.foldlRecOn (motive := GroupInvP (FromInput input ctx))
    ((input.attrs.ghostsAttr ctx.ty ctx.kind).toList.flatMap (·.ghostData)) ghostGroupStep h1 (fun st hst g hg => ?_)
  · exact h2.2 fc (mem_sortByGr fc _ h)
  · -- a struct-level ghost entry is appended only when it opened a group of its own: its key is not the root key, so it
    -- has a child path
    simp only [ghostGroupStep]
    split
    next hnew =>
      simp only [List.mem_flatMap, Option.mem_toList] at hg
      obtain ⟨ga, hga, hgm⟩ := hg
      cases hcp : g.childPath with
      | some c => exact hst.push fun fc hfd => Or.inr (Or.inl ⟨ga, hga, g, hgm, c, hcp, hfd⟩)
      | none =>
        have hkey : ghostPathKey g = "" := by simp [ghostPathKey, hcp]
        unfold makeTuple at hnew
        rw [hkey] at hnew
        cases hf : st.1.find? (·.1 == "") with
        | none => have := hst.1; simp [hf] at this
        | some v => simp [hf] at hnew
    next => exact ⟨makeTuple_keeps_root _ _ _ hst.1, hst.2⟩
  · simp only [fieldGroupStep]
    split
    next ps hps =>
      exact List.foldlRecOn (motive := GroupInvP (FromInput input ctx)) ps (parentChildGroupStep x) hst
        (fun st hst pc hpc => hst.push fun fc hfd => Or.inr (Or.inr ⟨x, hx, ps, pc, hps, hpc, hfd⟩))
    next => exact hst.push fun fc hfd => Or.inl ⟨x, hx, hfd⟩

end O2o
