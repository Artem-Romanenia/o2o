/-
C06 at the level of the whole descent: projecting every member's instructions onto one counterpart does not change
what `struct_init_block_inner` (and everything it calls) emits for that counterpart.
-/
import O2oModel.Props.C06
import O2oModel.Lemmas.Members
namespace O2o

def projField (ty : TypePath) (f : Field) : Field := { f with attrs := f.attrs.project ty }

def projFD (ty : TypePath) : FieldData → FieldData
  | .field f => .field (projField ty f)
  | .ghostData g => .ghostData g
  | .parentChildField f pc => .parentChildField (projField ty f) pc

def projFC (ty : TypePath) (fc : FieldContainer) : FieldContainer := { fc with fieldData := projFD ty fc.fieldData }

/-- the result of a descent step with the remaining cursor projected -/
def mapRest (ty : TypePath) (r : E (TS × List FieldContainer)) : E (TS × List FieldContainer) :=
  match r with
  | .ok (ts, l) => .ok (ts, l.map (projFC ty))
  | .error e => .error e

theorem mapRest_bind (ty : TypePath) (x : E (TS × List FieldContainer)) (k k' : TS × List FieldContainer → E (TS × List FieldContainer))
    (h : ∀ ts l, k (ts, l.map (projFC ty)) = mapRest ty (k' (ts, l))) :
    (mapRest ty x >>= k) = mapRest ty (x >>= k') := by
  cases x with
  | error e => rfl
  | ok v => exact h v.1 v.2

theorem mapRest_frame {α : Type} {ty : TypePath} {x : E α} {k k' : α → E (TS × List FieldContainer)}
    (h : ∀ a, k a = mapRest ty (k' a)) : (x >>= k) = mapRest ty (x >>= k') := by
  cases x with
  | error e => rfl
  | ok a => exact h a

theorem mapRest_step {ty : TypePath} {x x' : E (TS × List FieldContainer)}
    {k k' : TS × List FieldContainer → E (TS × List FieldContainer)} (hx : x' = mapRest ty x)
    (h : ∀ ts l, k (ts, l.map (projFC ty)) = mapRest ty (k' (ts, l))) : (x' >>= k) = mapRest ty (x >>= k') :=
  hx ▸ mapRest_bind ty x k k' h

theorem mapRest_line {ty : TypePath} {line : E TS} (l : List FieldContainer) :
    (line >>= fun ts => pure (ts, (l.map (projFC ty)).drop 1))
      = mapRest ty (line >>= fun ts => pure (ts, l.drop 1)) := by
  refine mapRest_frame fun ts => ?_
  rw [← List.map_drop]
  rfl

/-- the six functions of the descent, at one fuel level, commute with the projection of the member list -/
structure Sim (ty : TypePath) (n : Nat) : Prop where
  inner : ∀ l named ctx lvl, ctx.ty = ty →
    structInitBlockInner n (l.map (projFC ty)) named ctx lvl = mapRest ty (structInitBlockInner n l named ctx lvl)
  loop : ∀ l named ctx lvl hint frags idx, ctx.ty = ty →
    structInitLoop n (l.map (projFC ty)) named ctx lvl hint frags idx = mapRest ty (structInitLoop n l named ctx lvl hint frags idx)
  frag : ∀ cp l ctx depth hint line, ctx.ty = ty →
    renderChildFragment n cp (l.map (projFC ty)) ctx depth hint line = mapRest ty (renderChildFragment n cp l ctx depth hint line)
  pfrag : ∀ f pc l nf ctx depth th idx, ctx.ty = ty →
    renderParentChildFragment n (projField ty f) pc (l.map (projFC ty)) nf ctx depth th idx
      = mapRest ty (renderParentChildFragment n f pc l nf ctx depth th idx)
  child : ∀ cd l named ctx cp d hint, ctx.ty = ty →
    renderChild n cd (l.map (projFC ty)) named ctx cp d hint = mapRest ty (renderChild n cd l named ctx cp d hint)
  echild : ∀ l named ctx cp d, ctx.ty = ty →
    renderExistingChild n (l.map (projFC ty)) named ctx cp d = mapRest ty (renderExistingChild n l named ctx cp d)

theorem sim_zero (ty : TypePath) : Sim ty 0 := by
  constructor <;> intros <;> simp [structInitBlockInner, structInitLoop, renderChildFragment, renderParentChildFragment, renderChild,
    renderExistingChild, mapRest]

/- Each function is a chain of binds: `mapRest_frame` passes a step that leaves the cursor alone, `mapRest_step` one
   that is a call into the descent (by the induction hypothesis); a branch is split on both sides at once. -/
theorem sim_succ (ty : TypePath) (n : Nat) (ih : Sim ty n) : Sim ty (n + 1) := by
  constructor
  case inner =>
    intro l named ctx lvl h
    unfold structInitBlockInner
    refine mapRest_step (ih.loop _ _ _ _ _ _ _ h) fun ts r => ?_
    refine mapRest_frame fun ghosts => ?_
    exact mapRest_frame fun out => rfl
  case loop =>
    intro l named ctx lvl hint frags idx h
    subst h
    cases l with
    | nil => simp [structInitLoop, mapRest]
    | cons fc rest =>
      obtain ⟨gi, path, fd⟩ := fc
      unfold structInitLoop
      refine mapRest_frame fun brk => ?_
      split
      · rfl
      · have again := fun fr r => ih.loop r named ctx lvl hint (frags ++ fr) (idx + 1) rfl
        cases fd with
        | field f =>
          simp only [projFC, projFD, projField, C06_field_skipped, C06_child, C06_line_projection]
          split
          · exact ih.loop rest named ctx lvl hint frags idx rfl
          · split
            · exact mapRest_step (ih.frag _ (⟨gi, path, .field f⟩ :: rest) ctx _ hint _ rfl) again
            · exact mapRest_frame fun line => again line rest
        | ghostData g =>
          simp only [projFC, projFD]
          split
          · rfl
          · exact mapRest_step (ih.frag _ (⟨gi, path, .ghostData g⟩ :: rest) ctx _ hint _ rfl) again
        | parentChildField f pc =>
          simp only [projFC, projFD]
          refine mapRest_frame fun th => ?_
          exact mapRest_step (ih.pfrag f pc (⟨gi, path, .parentChildField f pc⟩ :: rest) _ ctx _ th idx rfl) again
  case frag =>
    intro cp l ctx depth hint line h
    subst h
    unfold renderChildFragment
    split
    · split
      · split
        · rfl
        · refine mapRest_frame fun key => ?_
          split
          · rfl
          · exact mapRest_frame fun named => ih.child _ l named ctx cp _ hint rfl
      · exact mapRest_frame fun named => ih.echild l named ctx cp _ rfl
      · exact mapRest_line l
    · exact mapRest_line l
  case pfrag =>
    intro f pc l nf ctx depth th idx h
    subst h
    unfold renderParentChildFragment
    split
    · refine mapRest_frame fun t => ?_
      exact mapRest_frame fun named => ih.child _ l nf ctx _ _ _ rfl
    · rw [projField, C06_line_projection]
      exact mapRest_line l
  case child =>
    intro cd l named ctx cp d hint h
    unfold renderChild
    refine mapRest_frame fun name => ?_
    refine mapRest_step (ih.inner _ _ _ _ h) fun init r => ?_
    refine mapRest_frame fun nr => ?_
    cases nr <;> cases hint <;> rfl
  case echild =>
    intro l named ctx cp d h
    unfold renderExistingChild
    exact mapRest_frame fun path => ih.inner _ _ _ _ h

def projSt (ty : TypePath) (st : GroupPaths × List FieldContainer) : GroupPaths × List FieldContainer :=
  (st.1, st.2.map (projFC ty))

theorem makeTuple_proj (ty : TypePath) (gp : GroupPaths) (path : String) (fd : FieldData) :
    makeTuple gp path (projFD ty fd)
      = ((makeTuple gp path fd).1, projFC ty (makeTuple gp path fd).2.1, (makeTuple gp path fd).2.2) := by
  unfold makeTuple
  split <;> rfl

theorem insertByGr_proj (ty : TypePath) (x : FieldContainer) : ∀ (l : List FieldContainer),
    insertByGr (projFC ty x) (l.map (projFC ty)) = (insertByGr x l).map (projFC ty)
  | [] => rfl
  | y :: ys => by
    simp only [List.map_cons, insertByGr, projFC]
    split
    · rfl
    · simp only [List.map_cons, projFC]
      congr 1
      exact insertByGr_proj ty x ys

theorem sortByGr_proj (ty : TypePath) (l : List FieldContainer) :
    sortByGr (l.map (projFC ty)) = (sortByGr l).map (projFC ty) := by
  unfold sortByGr
  rw [List.foldr_map]
  exact List.foldr_hom (List.map (projFC ty)) (init := []) (insertByGr_proj ty)

theorem projFC_ghost (ty : TypePath) (fc : FieldContainer) (g : GhostData) (h : fc.fieldData = .ghostData g) :
    projFC ty fc = fc := by
  obtain ⟨gi, pa, fd⟩ := fc
  cases h
  rfl

theorem ghostGroupStep_proj (ty : TypePath) (st : GroupPaths × List FieldContainer) (g : GhostData) :
    ghostGroupStep (projSt ty st) g = projSt ty (ghostGroupStep st g) := by
  unfold projSt ghostGroupStep
  simp only [apply_ite (List.map (projFC ty)), List.map_append, List.map_singleton,
    projFC_ghost ty _ g (makeTuple_data _ _ _)]

/-- the step shared by `parentChildGroupStep` and `fieldGroupStep`: append the container made for `fd` -/
theorem pushTuple_proj (ty : TypePath) (st : GroupPaths × List FieldContainer) (key : String) (fd : FieldData) :
    ((makeTuple st.1 key (projFD ty fd)).1, st.2.map (projFC ty) ++ [(makeTuple st.1 key (projFD ty fd)).2.1])
      = projSt ty ((makeTuple st.1 key fd).1, st.2 ++ [(makeTuple st.1 key fd).2.1]) := by
  rw [makeTuple_proj, projSt, List.map_append, List.map_singleton]

theorem parentChildGroupStep_proj (ty : TypePath) (x : Field) (st : GroupPaths × List FieldContainer)
    (pc : ParentChildField) :
    parentChildGroupStep (projField ty x) (projSt ty st) pc = projSt ty (parentChildGroupStep x st pc) :=
  pushTuple_proj ty st _ (.parentChildField x pc)

theorem fieldPathKey_proj (ctx : ImplContext) (x : Field) :
    fieldPathKey ctx (projField ctx.ty x) = fieldPathKey ctx x := by
  unfold fieldPathKey
  simp only [projField, C06_child]

theorem fieldGroupStep_proj (ctx : ImplContext) (st : GroupPaths × List FieldContainer) (x : Field) :
    fieldGroupStep ctx (projSt ctx.ty st) (projField ctx.ty x) = projSt ctx.ty (fieldGroupStep ctx st x) := by
  unfold fieldGroupStep
  rw [fieldPathKey_proj, projField, C06_parameterized_parent]
  split
  · exact List.foldl_hom (projSt ctx.ty) (parentChildGroupStep_proj ctx.ty x)
  · exact pushTuple_proj ctx.ty st _ (.field x)

/-- members with their instructions projected onto the counterpart of the conversion -/
def Struct.projectMembers (s : Struct) (ty : TypePath) : Struct := { s with fields := s.fields.map (projField ty) }

theorem groupedMembers_proj (s : Struct) (ctx : ImplContext) :
    groupedMembers (s.projectMembers ctx.ty) ctx = (groupedMembers s ctx).map (projFC ctx.ty) := by
  have h0 : ([("", 0)], []) = projSt ctx.ty ([("", 0)], []) := rfl
  simp only [groupedMembers, Struct.projectMembers, List.foldl_map]
  rw [h0, List.foldl_hom (projSt ctx.ty) (fieldGroupStep_proj ctx),
    List.foldl_hom (projSt ctx.ty) (ghostGroupStep_proj ctx.ty)]
  exact sortByGr_proj ctx.ty _

end O2o
