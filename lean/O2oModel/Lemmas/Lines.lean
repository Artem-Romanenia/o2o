/-
`render_struct_line` seen from outside its 35-arm match: which conversion class a kind is in, and what the running line
counter is used for. The counter (`idx`, the number of lines written so far) only ever names the *slot that is written*
(in the default-value dialect of a positional counterpart, and in one IntoExisting arm); what is *read* — and every line
of a From conversion and of an initialiser expression — is determined by the member itself and the instructions.
-/
import O2oModel.Expand
import O2oModel.Lemmas.Basic
namespace O2o

theorem cls_from_iff (k : Kind) : k.cls = .from_ ↔ k.isFrom = true := by
  unfold Kind.cls
  cases k.isFrom <;> cases k.isIntoExisting <;> simp

theorem cls_from {k : Kind} (h : k.cls = .from_) : k.isFrom = true := (cls_from_iff k).mp h

theorem cls_ne_from {k : Kind} (h : k.cls ≠ .from_) : k.isFrom = false :=
  Bool.eq_false_iff.mpr (mt (cls_from_iff k).mpr h)

theorem cls_not_from {k : Kind} (h : k.cls = .into ∨ k.cls = .existing) : k.isFrom = false :=
  cls_ne_from fun hf => by rw [hf] at h; rcases h with h | h <;> cases h

theorem cls_into_not_from {k : Kind} (h : k.cls = .into) : k.isFrom = false := cls_not_from (Or.inl h)

theorem srcIdent_eq (k : Kind) : srcIdent k = if k.isFrom then [Tok.ident "value"] else [Tok.ident "self"] := by
  unfold srcIdent
  split <;> rfl

theorem mem_implContexts {input : DataType} {ctx : ImplContext} (h : ctx ∈ implContexts input) :
    ctx.input = input ∧ ∃ ta ∈ input.attrs.iterForKind ctx.kind ctx.fallible, ta.core = ctx.structAttr := by
  unfold implContexts at h
  simp only [List.mem_flatMap, List.mem_map] at h
  obtain ⟨_, _, sa, hsa, rfl⟩ := h
  exact ⟨rfl, List.mem_map.mp hsa⟩

theorem renderStructLine_ignores_counter (f : Field) (ctx : ImplContext) (hint : TypeHint) (idx idx' : Nat)
    (pc : Option ParentChildField) (h : ctx.kind.cls = .from_ ∨ (ctx.kind.cls = .into ∧ ctx.hasPostInit = false)) :
    renderStructLine f ctx hint idx pc = renderStructLine f ctx hint idx' pc := by
  unfold renderStructLine
  extract_lets member attr
  clear_value member attr
  -- cases on the other three discriminants, not `split` (slow to check on this match): with the class known they select
  -- the same arm on both sides. `idx` occurs in five arms only: four Into arms, under `if ctx.hasPostInit`, and one
  -- IntoExisting arm
  rcases h with h | ⟨h, hp⟩
  · rw [h]
    cases member <;> cases attr <;> cases hint <;> rfl
  · rw [h]
    cases member <;> cases attr <;> cases hint <;> simp only [hp, Bool.false_eq_true, ↓reduceIte]

end O2o
