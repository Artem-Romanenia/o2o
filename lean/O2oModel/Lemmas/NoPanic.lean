/-
"This function never answers with the panic at site s" (`NP`), and postconditions (`Post`): a small calculus for
`Except PErr` programs, used by the `_np` lemmas and the panic inventories of C16.
-/
import O2oModel.Expand
namespace O2o

def NP {α : Type} (site : String) (r : E α) : Prop := r ≠ .error (.panic site)

theorem NP.ok {α : Type} {s : String} {a : α} : NP s (.ok a : E α) := by intro h; cases h
theorem NP.pure {α : Type} {s : String} {a : α} : NP s (pure a : E α) := NP.ok

theorem NP.panicAt {α : Type} {s s' : String} (h : s' ≠ s) : NP s (panicAt s' : E α) := by
  intro e
  cases e
  exact h rfl

theorem NP.of_total {α : Type} {s : String} {r : E α} (h : ∃ a, r = .ok a) : NP s r := by
  obtain ⟨a, rfl⟩ := h
  exact NP.ok

/-- from the form the calculus works in to the form the inventories are stated in -/
theorem NP.sites {α : Type} (sites : List String) {r : E α} (h : ∀ s, (∀ site ∈ sites, site ≠ s) → NP s r)
    (s : String) (hs : r = .error (.panic s)) : s ∈ sites :=
  Decidable.byContradiction fun hm => h s (fun _ hsite e => hm (e ▸ hsite)) hs

theorem NP.error_o2o {α : Type} (s m : String) : NP s (.error (.o2o m) : E α) := by intro h; cases h
theorem NP.error_unsupported {α : Type} {s m : String} : NP s (.error (.unsupported m) : E α) := by intro h; cases h
theorem NP.error_lib {α : Type} (s : String) : NP s (.error .lib : E α) := by intro h; cases h

theorem NP.bind' {α β : Type} {s : String} {x : E α} {f : α → E β} (hx : NP s x) (hf : ∀ a, x = .ok a → NP s (f a)) :
    NP s (x >>= f) := by
  cases x with
  | error e =>
    intro h
    cases h
    exact hx rfl
  | ok a => exact hf a rfl

theorem NP.bind {α β : Type} {s : String} {x : E α} {f : α → E β} (hx : NP s x) (hf : ∀ a, NP s (f a)) : NP s (x >>= f) :=
  NP.bind' hx fun a _ => hf a

theorem NP.ite {α : Type} {s : String} {c : Prop} [Decidable c] {x y : E α} (hx : c → NP s x) (hy : ¬c → NP s y) :
    NP s (if c then x else y) := by
  split
  · exact hx ‹_›
  · exact hy ‹_›

theorem NP.ite_pure {α : Type} {s : String} {c : Prop} [Decidable c] {a b : α} :
    NP s (if c then (Pure.pure a : E α) else Pure.pure b) :=
  NP.ite (fun _ => NP.pure) fun _ => NP.pure

theorem NP.foldlM_mem {α β : Type} {s : String} {f : β → α → E β} {l : List α} {init : β}
    (hf : ∀ b a, a ∈ l → NP s (f b a)) : NP s (l.foldlM f init) := by
  induction l generalizing init with
  | nil => exact NP.pure
  | cons a rest ih =>
    simp only [List.foldlM_cons]
    exact NP.bind (hf init a List.mem_cons_self) fun b => ih fun b' a' ha' => hf b' a' (List.mem_cons_of_mem _ ha')

theorem NP.foldlM {α β : Type} {s : String} {f : β → α → E β} (hf : ∀ b a, NP s (f b a)) {l : List α} {init : β} :
    NP s (l.foldlM f init) :=
  NP.foldlM_mem fun b a _ => hf b a

def Post {α : Type} (Q : α → Prop) (r : E α) : Prop := ∀ a, r = .ok a → Q a

theorem Post.ok {α : Type} {Q : α → Prop} {a : α} (h : Q a) : Post Q (.ok a : E α) := by
  intro b hb; cases hb; exact h
theorem Post.pure {α : Type} {Q : α → Prop} {a : α} (h : Q a) : Post Q (pure a : E α) := Post.ok h
theorem Post.error {α : Type} {Q : α → Prop} {e : PErr} : Post Q (.error e : E α) := by
  intro b hb; cases hb
theorem Post.panicAt {α : Type} {Q : α → Prop} {s : String} : Post Q (panicAt s : E α) := Post.error

theorem Post.ite {α : Type} {Q : α → Prop} {c : Prop} [Decidable c] {x y : E α} (hx : Post Q x) (hy : Post Q y) :
    Post Q (if c then x else y) := by
  split
  · exact hx
  · exact hy

theorem Post.bind {α β : Type} {P : α → Prop} {Q : β → Prop} {x : E α} {f : α → E β}
    (hx : Post P x) (hf : ∀ a, P a → Post Q (f a)) : Post Q (x >>= f) := by
  cases x with
  | error e => intro b hb; cases hb
  | ok a => exact hf a (hx a rfl)

theorem Post.bind_any {α β : Type} {Q : β → Prop} {x : E α} {f : α → E β} (hf : ∀ a, Post Q (f a)) : Post Q (x >>= f) :=
  Post.bind (P := fun _ => True) (fun _ _ => trivial) fun a _ => hf a

theorem Post.mono {α : Type} {P Q : α → Prop} {r : E α} (h : Post P r) (hpq : ∀ a, P a → Q a) : Post Q r :=
  fun a ha => hpq a (h a ha)

theorem NP.bind_post {α β : Type} {s : String} {P : α → Prop} {x : E α} {f : α → E β}
    (hx : NP s x) (hp : Post P x) (hf : ∀ a, P a → NP s (f a)) : NP s (x >>= f) :=
  NP.bind' hx fun a ha => hf a (hp a ha)

end O2o
