/-
C03 at arbitrary depth: the recursive descent of `struct_init_block_inner` over a sorted member list that forms a
*tree* (every nested struct's members contiguous) builds every nested struct exactly once, with all and only its own
members — Into direction, any depth, any number of members (`loop_nodes`); in the IntoExisting direction it assigns
every contributing member once, in list order (`loop_nodes_existing`).
-/
import O2oModel.Lemmas.Tree
namespace O2o

mutual
/-- the sorted member list seen as a tree: a member rendered at the current level, or a nested struct holding a
    (non-empty) list of nodes one level deeper -/
inductive Node
  | leaf (fc : FieldContainer) (f : Field)
  | sub (kids : NodeList) (cdata : ChildParentData)
inductive NodeList
  | nil
  | cons (n : Node) (ns : NodeList)
end

mutual
def Node.flatten : Node → List FieldContainer
  | .leaf fc _ => [fc]
  | .sub kids _ => kids.flatten
def NodeList.flatten : NodeList → List FieldContainer
  | .nil => []
  | .cons n ns => n.flatten ++ ns.flatten
end

mutual
def Node.first : Node → Option (FieldContainer × Field)
  | .leaf fc f => some (fc, f)
  | .sub kids _ => kids.first
def NodeList.first : NodeList → Option (FieldContainer × Field)
  | .nil => none
  | .cons n _ => n.first
end

mutual
def Node.weight : Node → Nat
  | .leaf _ _ => 1
  | .sub kids _ => kids.weight + 5
def NodeList.weight : NodeList → Nat
  | .nil => 0
  | .cons n ns => n.weight + ns.weight
end

/-- the level inside a nested struct: its path is the path of the struct's first member -/
def subLevel (ctx : ImplContext) (lvl : FieldCtx) (kids : NodeList) (cdata : ChildParentData) : FieldCtx :=
  match kids.first with
  | some p => match p.2.attrs.child ctx.ty with
    | some ca => some (ca.childPath, some { ty := cdata.ty, typeHint := cdata.typeHint }, newDepthOf lvl)
    | none => none
  | none => none

mutual
/-- what one nested struct must be rendered as: named once, built once, holding the fragments of its own nodes in
    order, then the ghosts addressed to exactly this struct, then `..update` -/
def Node.subSpec (ctx : ImplContext) (nr : Bool) (lvl : FieldCtx) (hint : TypeHint) (kids : NodeList) (cdata : ChildParentData) : E TS := do
  match subLevel ctx lvl kids cdata with
  | some (cp, crc, d) =>
    let childName ← (match cp.path[d]? with
      | some m => pure m.toTS
      | none => panicAt "expand.rs:render_child:child_path index")
    let lines ← NodeList.spec ctx nr (some (cp, crc, d)) cdata.typeHint kids 0
    let g ← structGhostLines ctx (some (cp, crc, d))
    let init ← wrapInit ctx cdata.typeHint nr (lines ++ g ++ updateToks ctx)
    match nr, hint with
    | true, .struct | true, .unspecified => return childName ++ [colon] ++ exprPath cdata.ty ++ init ++ [comma]
    | true, .tuple => return exprPath cdata.ty ++ init ++ [comma]
    | false, .tuple | false, .unspecified => return exprPath cdata.ty ++ init ++ [comma]
    | false, .struct => return childName ++ [colon] ++ exprPath cdata.ty ++ init ++ [comma]
    | _, .unit => panicAt "expand.rs:render_child:unreachable(15)"
  | none => .error (.unsupported "ill-formed tree")
/-- the body of one level: one fragment per node, in order; the running position counts contributing nodes -/
def NodeList.spec (ctx : ImplContext) (nr : Bool) (lvl : FieldCtx) (hint : TypeHint) : NodeList → Nat → E TS
  | .nil, _ => .ok []
  | .cons (.leaf _ f) ns, idx =>
    if fieldSkipped ctx f then NodeList.spec ctx nr lvl hint ns idx
    else do
      let l ← renderStructLine f ctx hint idx none
      let r ← NodeList.spec ctx nr lvl hint ns (idx + 1)
      return l ++ r
  | .cons (.sub kids cdata) ns, idx => do
    let frag ← Node.subSpec ctx nr lvl hint kids cdata
    let r ← NodeList.spec ctx nr lvl hint ns (idx + 1)
    return frag ++ r
end

/-- the member that follows, if any, does not belong to the nested struct whose key is `key` -/
def notMatching (key : String) (after : Option FieldContainer) : Prop :=
  ∀ fc, after = some fc → pathMatches fc.path key = false

/-- what follows a node inside a list: the first member of the following nodes, else what follows the list -/
def afterOf (ns : NodeList) (after : Option FieldContainer) : Option FieldContainer :=
  match ns.flatten.head? with
  | some fc => some fc
  | none => after

mutual
/-- side conditions: every leaf sits exactly at its level, every nested struct starts with a contributing member whose
    child path goes deeper, is listed in `#[child_parents]`, holds nodes of its own level, and is followed by a member
    that does not belong to it (contiguity) -/
def Node.WF (ctx : ImplContext) (cpa : ChildParentsAttr) : FieldCtx → Option FieldContainer → Node → Prop
  | lvl, _, .leaf fc f =>
    fc.fieldData = .field f ∧
    (match lvl with
     | none => f.attrs.child ctx.ty = none
     | some (cp, _, d) => ∃ pfx ca, cp.getStr (some d) = .ok pfx ∧ fc.path = pfx ∧ f.attrs.child ctx.ty = some ca ∧ ca.childPath.strs.length = d + 1)
  | lvl, after, .sub kids cdata =>
    ∃ p0 ca0 key, kids.first = some p0 ∧ p0.1.fieldData = .field p0.2 ∧ p0.2.attrs.child ctx.ty = some ca0 ∧ fieldSkipped ctx p0.2 = false ∧
      (match lvl with | none => True | some (_, _, d) => d < ca0.childPath.strs.length - 1) ∧
      ca0.childPath.getStr (some (newDepthOf lvl)) = .ok key ∧
      cpa.childParents.find? (fun cd => cd.fieldPathStr == key) = some cdata ∧
      notMatching key after ∧
      NodeList.WF ctx cpa (some (ca0.childPath, some { ty := cdata.ty, typeHint := cdata.typeHint }, newDepthOf lvl)) after kids
def NodeList.WF (ctx : ImplContext) (cpa : ChildParentsAttr) : FieldCtx → Option FieldContainer → NodeList → Prop
  | _, _, .nil => True
  | lvl, after, .cons n ns =>
    (match lvl with
     | none => True
     | some (cp, _, d) => ∃ pfx p, cp.getStr (some d) = .ok pfx ∧ n.first = some p ∧ pathMatches p.1.path pfx = true) ∧
    Node.WF ctx cpa lvl (afterOf ns after) n ∧
    NodeList.WF ctx cpa lvl after ns
end

mutual
theorem Node.flatten_of_first : ∀ (n : Node) (p : FieldContainer × Field), n.first = some p → ∃ tl, n.flatten = p.1 :: tl
  | .leaf fc f, p, h => by simp [Node.first] at h; subst h; exact ⟨[], rfl⟩
  | .sub kids _, p, h => by simpa [Node.flatten] using NodeList.flatten_of_first kids p (by simpa [Node.first] using h)
theorem NodeList.flatten_of_first : ∀ (ns : NodeList) (p : FieldContainer × Field), ns.first = some p → ∃ tl, ns.flatten = p.1 :: tl
  | .nil, p, h => by simp [NodeList.first] at h
  | .cons n ns, p, h => by
    obtain ⟨tl, htl⟩ := Node.flatten_of_first n p (by simpa [NodeList.first] using h)
    exact ⟨tl ++ ns.flatten, by simp [NodeList.flatten, htl]⟩
end

theorem afterOf_head (ns : NodeList) (rest : List FieldContainer) : afterOf ns rest.head? = (ns.flatten ++ rest).head? := by
  unfold afterOf
  cases ns.flatten <;> rfl

/-- what the induction needs of a well-formed nested struct: the loop reaches its first member, and the nested level
    ends where the enclosing one goes on -/
theorem sub_facts {ctx : ImplContext} {cpa : ChildParentsAttr} {lvl : FieldCtx} {rest : List FieldContainer} {kids ns : NodeList}
    {cdata : ChildParentData} (hwf : NodeList.WF ctx cpa lvl rest.head? (.cons (.sub kids cdata) ns)) :
    ∃ (p0 : FieldContainer × Field) (ca0 : ChildAttr) (key : String) (tl : List FieldContainer),
      kids.flatten = p0.1 :: tl ∧
      (levelBreak lvl p0.1.path = .ok false ∧
        deeperThan (lvl.map (·.2.2)) (ca0.childPath.strs.length - 1) = true) ∧
      p0.1.fieldData = .field p0.2 ∧ p0.2.attrs.child ctx.ty = some ca0 ∧ fieldSkipped ctx p0.2 = false ∧
      ca0.childPath.getStr (some (newDepthOf lvl)) = .ok key ∧
      cpa.childParents.find? (fun cd => cd.fieldPathStr == key) = some cdata ∧
      subLevel ctx lvl kids cdata =
        some (ca0.childPath, some { ty := cdata.ty, typeHint := cdata.typeHint }, newDepthOf lvl) ∧
      NodeList.WF ctx cpa (some (ca0.childPath, some { ty := cdata.ty, typeHint := cdata.typeHint }, newDepthOf lvl))
        (ns.flatten ++ rest).head? kids ∧
      endOk (some (ca0.childPath, some { ty := cdata.ty, typeHint := cdata.typeHint }, newDepthOf lvl)) (ns.flatten ++ rest) ∧
      NodeList.WF ctx cpa lvl rest.head? ns := by
  obtain ⟨hhead, ⟨p0, ca0, key, hfirst, hfd, hca0, hns, hdeep, hkey, hfind, hnot, hkids⟩, hwf'⟩ := hwf
  obtain ⟨tl, htl⟩ := NodeList.flatten_of_first kids p0 hfirst
  refine ⟨p0, ca0, key, tl, htl, ?_, hfd, hca0, hns, hkey, hfind, by simp [subLevel, hfirst, hca0],
    afterOf_head ns rest ▸ hkids, ⟨key, hkey, ?_⟩, hwf'⟩
  · -- the loop neither stops at the first member nor renders it as a line: at the top level trivially, below it by
    -- `hhead` and `hdeep`
    cases lvl with
    | none => exact ⟨rfl, rfl⟩
    | some l =>
      obtain ⟨pfx, p, hpfx, hp, hm⟩ := hhead
      cases hp.symm.trans hfirst
      exact ⟨by simp [levelBreak, hpfx, hm, ok_bind, pure, Except.pure], by simpa [deeperThan] using hdeep⟩
  · cases hr : ns.flatten ++ rest with
    | nil => exact Or.inl rfl
    | cons fc rs => exact Or.inr ⟨fc, rs, rfl, hnot fc (by rw [afterOf_head, hr]; rfl)⟩

/-- **C03, any depth**: the cursor loop over a member list that forms a well-formed tree produces exactly the
    specification — one fragment per node, each nested struct named once and built once from all and only its nodes -/
theorem loop_nodes (ctx : ImplContext) (hk : ctx.kind.cls = .into)
    (cpa : ChildParentsAttr) (hcpa : ctx.input.attrs.childParentsAttr ctx.ty = some cpa)
    (nr : Bool) (hnr : ctx.input.namedFields = .ok nr) :
    ∀ (ns : NodeList) (named : Bool) (lvl : FieldCtx) (hint : TypeHint) (rest : List FieldContainer) (fuel : Nat) (frags : TS) (idx : Nat),
      ns.weight + 1 < fuel → NodeList.WF ctx cpa lvl rest.head? ns → endOk lvl rest →
      structInitLoop fuel (ns.flatten ++ rest) named ctx lvl hint frags idx =
        accum frags rest (NodeList.spec ctx nr lvl hint ns idx)
  | .nil, named, lvl, hint, rest, fuel + 1, frags, idx, _, _, hend => by
    simp only [NodeList.flatten, List.nil_append, NodeList.spec]
    exact structInitLoop_end hend
  | .cons (.leaf fc f) ns, named, lvl, hint, rest, fuel + 2, frags, idx, hf, hwf, hend => by
    simp only [NodeList.weight, Node.weight] at hf
    simp only [NodeList.flatten, Node.flatten, List.cons_append, List.nil_append, NodeList.spec]
    exact structInitLoop_leaf_acc (Or.inr (cls_into_not_from hk)) hwf.2.1 (NodeList.spec ctx nr lvl hint ns)
      (fun frags idx => loop_nodes ctx hk cpa hcpa nr hnr ns named lvl hint rest (fuel + 1) frags idx
        (by omega) hwf.2.2 hend) frags idx
  | .cons (.sub kids cdata) ns, named, lvl, hint, rest, fuel, frags, idx, hf, hwf, hend => by
    obtain ⟨p0, ca0, key, tl, htl, ⟨hb, hdeep⟩, hfd, hca0, hns, hkey, hfind, hlvl, hkids, hend', hwf'⟩ :=
      sub_facts hwf
    simp only [NodeList.weight, Node.weight] at hf
    -- (not a pattern `fuel + 4`: small fuel is excluded only by the weight as unfolded here)
    obtain ⟨fuel, rfl⟩ : ∃ n, fuel = n + 4 := ⟨fuel - 4, by omega⟩
    -- the loop of the nested struct, three calls down
    have ihkids := loop_nodes ctx hk cpa hcpa nr hnr kids nr _ cdata.typeHint (ns.flatten ++ rest) fuel [] 0 (by omega) hkids hend'
    simp only [NodeList.flatten, Node.flatten, List.append_assoc, NodeList.spec]
    rw [htl] at ihkids ⊢
    rw [List.cons_append, Node.subSpec, hlvl]
    exact structInitLoop_child_acc hb hfd hns hca0
      (renderChildFragment_into hk hcpa hnr hdeep hkey hfind hint ihkids)
      (fun frags => loop_nodes ctx hk cpa hcpa nr hnr ns named lvl hint rest (fuel + 3) frags (idx + 1) (by omega) hwf' hend) frags

mutual
/-- IntoExisting: a nested struct contributes the assignments of its own nodes, then its ghost assignments (and the
    `..update` tokens the code appends at every level) — no wrapper -/
def Node.subSpecE (ctx : ImplContext) (nr : Bool) (lvl : FieldCtx) (kids : NodeList) (cdata : ChildParentData) : E TS := do
  match subLevel ctx lvl kids cdata with
  | some (cp, crc, d) =>
    let lines ← NodeList.specE ctx nr (some (cp, crc, d)) cdata.typeHint kids 0
    let g ← structGhostLines ctx (some (cp, crc, d))
    wrapInit ctx cdata.typeHint nr (lines ++ g ++ updateToks ctx)
  | none => .error (.unsupported "ill-formed tree")
def NodeList.specE (ctx : ImplContext) (nr : Bool) (lvl : FieldCtx) (hint : TypeHint) : NodeList → Nat → E TS
  | .nil, _ => .ok []
  | .cons (.leaf _ f) ns, idx =>
    if fieldSkipped ctx f then NodeList.specE ctx nr lvl hint ns idx
    else do
      let l ← renderStructLine f ctx hint idx none
      let r ← NodeList.specE ctx nr lvl hint ns (idx + 1)
      return l ++ r
  | .cons (.sub kids cdata) ns, idx => do
    let frag ← Node.subSpecE ctx nr lvl kids cdata
    let r ← NodeList.specE ctx nr lvl hint ns (idx + 1)
    return frag ++ r
end

/-- **C03, any depth, IntoExisting**: over a well-formed tree the loop emits exactly one assignment per contributing
    member, in list order, each nested struct's ghost assignments right after its own members -/
theorem loop_nodes_existing (ctx : ImplContext) (hk : ctx.kind.cls = .existing)
    (cpa : ChildParentsAttr) (hcpa : ctx.input.attrs.childParentsAttr ctx.ty = some cpa)
    (nr : Bool) (hnr : ctx.input.namedFields = .ok nr) :
    ∀ (ns : NodeList) (named : Bool) (lvl : FieldCtx) (hint : TypeHint) (rest : List FieldContainer) (fuel : Nat) (frags : TS) (idx : Nat),
      ns.weight + 1 < fuel → NodeList.WF ctx cpa lvl rest.head? ns → endOk lvl rest →
      structInitLoop fuel (ns.flatten ++ rest) named ctx lvl hint frags idx =
        accum frags rest (NodeList.specE ctx nr lvl hint ns idx)
  | .nil, named, lvl, hint, rest, fuel + 1, frags, idx, _, _, hend => by
    simp only [NodeList.flatten, List.nil_append, NodeList.specE]
    exact structInitLoop_end hend
  | .cons (.leaf fc f) ns, named, lvl, hint, rest, fuel + 2, frags, idx, hf, hwf, hend => by
    simp only [NodeList.weight, Node.weight] at hf
    simp only [NodeList.flatten, Node.flatten, List.cons_append, List.nil_append, NodeList.specE]
    exact structInitLoop_leaf_acc (Or.inr (cls_not_from (Or.inr hk))) hwf.2.1 (NodeList.specE ctx nr lvl hint ns)
      (fun frags idx => loop_nodes_existing ctx hk cpa hcpa nr hnr ns named lvl hint rest (fuel + 1) frags idx
        (by omega) hwf.2.2 hend) frags idx
  | .cons (.sub kids cdata) ns, named, lvl, hint, rest, fuel, frags, idx, hf, hwf, hend => by
    obtain ⟨p0, ca0, key, tl, htl, ⟨hb, hdeep⟩, hfd, hca0, hns, hkey, hfind, hlvl, hkids, hend', hwf'⟩ :=
      sub_facts hwf
    simp only [NodeList.weight, Node.weight] at hf
    obtain ⟨fuel, rfl⟩ : ∃ n, fuel = n + 4 := ⟨fuel - 4, by omega⟩
    have ihkids := loop_nodes_existing ctx hk cpa hcpa nr hnr kids nr _ cdata.typeHint (ns.flatten ++ rest) fuel [] 0 (by omega) hkids hend'
    simp only [NodeList.flatten, Node.flatten, List.append_assoc, NodeList.specE]
    rw [htl] at ihkids ⊢
    rw [List.cons_append, Node.subSpecE, hlvl]
    exact structInitLoop_child_acc hb hfd hns hca0
      (renderChildFragment_existing hk hcpa hnr hdeep hkey hfind hint ihkids)
      (fun frags => loop_nodes_existing ctx hk cpa hcpa nr hnr ns named lvl hint rest (fuel + 3) frags (idx + 1) (by omega) hwf' hend) frags

end O2o
