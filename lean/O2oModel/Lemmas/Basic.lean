/- Facts about `Except`, `Option` and lists that do not mention the model. -/
namespace O2o

theorem ok_bind {ε α β : Type} (a : α) (f : α → Except ε β) : (Except.ok a >>= f) = f a := rfl

theorem bind_ok_iff {ε α β : Type} (x : Except ε α) (g : α → Except ε β) (b : β) :
    (x >>= g) = .ok b ↔ ∃ a, x = .ok a ∧ g a = .ok b := by
  cases x <;> simp [bind, Except.bind]

theorem foldlM_append_eq_mapM {ε α γ : Type} (xs : List α) (f : α → Except ε (List γ)) (acc : List γ) :
    xs.foldlM (fun (acc : List γ) x => do return acc ++ (← f x)) acc = (do return acc ++ (← xs.mapM f).flatten) := by
  induction xs generalizing acc with
  | nil => simp only [List.foldlM_nil, List.mapM_nil, pure_bind, List.flatten_nil, List.append_nil]
  | cons x xs ih =>
    simp only [List.foldlM_cons, List.mapM_cons, bind_assoc, pure_bind, ih, List.flatten_cons, List.append_assoc]

theorem mapM_congr_mem {m : Type → Type} [Monad m] [LawfulMonad m] {α β : Type} (f g : α → m β) :
    ∀ (l : List α), (∀ a ∈ l, f a = g a) → l.mapM f = l.mapM g
  | [], _ => rfl
  | a :: l, h => by
    rw [List.mapM_cons, List.mapM_cons, h a List.mem_cons_self,
      mapM_congr_mem f g l (fun b hb => h b (List.mem_cons_of_mem _ hb))]

theorem mapM_ok_length {ε α β : Type} {f : α → Except ε β} : ∀ {xs : List α} {ys : List β}, xs.mapM f = .ok ys → ys.length = xs.length
  | [], ys, h => by cases h; rfl
  | x :: xs, ys, h => by
    simp only [List.mapM_cons, bind_ok_iff, pure, Except.pure, Except.ok.injEq] at h
    obtain ⟨y, _, ys', hxs, rfl⟩ := h
    simp [mapM_ok_length hxs]

theorem mapM_ok_getElem {ε α β : Type} {f : α → Except ε β} : ∀ {xs : List α} {ys : List β}, xs.mapM f = .ok ys →
    ∀ n (hx : n < xs.length) (hy : n < ys.length), f xs[n] = .ok ys[n]
  | [], ys, h, n, hx, _ => by simp at hx
  | x :: xs, ys, h, n, hx, hy => by
    simp only [List.mapM_cons, bind_ok_iff, pure, Except.pure, Except.ok.injEq] at h
    obtain ⟨y, hfx, ys', hxs, rfl⟩ := h
    cases n with
    | zero => simpa using hfx
    | succ n => exact mapM_ok_getElem hxs n (by simpa using hx) (by simpa using hy)

/-- how a `match` over literal keys, kept as a table, is read: the first arm whose key equals the scrutinee is taken -/
theorem find_first_declared {κ : Type} [DecidableEq κ] : ∀ (table : List (κ × String)) (row : κ × String), row ∈ table →
    ∃ v, (table.find? (fun r => decide (r.1 = row.1))).map (·.2) = some v ∧ ((table.map (·.1)).Nodup → v = row.2)
  | [], _, h => by simp at h
  | r :: table, row, h => by
    by_cases he : r.1 = row.1
    · refine ⟨r.2, by simp [he], fun hnd => ?_⟩
      rcases List.mem_cons.mp h with rfl | h'
      · rfl
      · exact absurd (List.mem_map.mpr ⟨row, h', he.symm⟩) (List.nodup_cons.mp hnd).1
    · have h' : row ∈ table := (List.mem_cons.mp h).resolve_left fun e => he (e ▸ rfl)
      obtain ⟨v, hv, hn⟩ := find_first_declared table row h'
      exact ⟨v, by simpa [he] using hv, fun hnd => hn (List.nodup_cons.mp hnd).2⟩

theorem mapM_isSome {α β : Type} (f : α → Option β) : ∀ l : List α, (∀ a ∈ l, (f a).isSome) → ∃ r, l.mapM f = some r
  | [], _ => ⟨[], rfl⟩
  | a :: l, h => by
    obtain ⟨b, hb⟩ := Option.isSome_iff_exists.mp (h a List.mem_cons_self)
    obtain ⟨r, hr⟩ := mapM_isSome f l fun c hc => h c (List.mem_cons_of_mem _ hc)
    exact ⟨b :: r, by simp [List.mapM_cons, hb, hr]⟩

end O2o
