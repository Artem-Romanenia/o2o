/-
Helper lemmas about the "dedicated to `ty`, else default" search used by every lookup of attr.rs.
-/
import O2oModel.Attr
namespace O2o

/-- an instruction is relevant to counterpart `ty` when it is a default one or dedicated to `ty` -/
def relevantTo (ty : TypePath) (c : Option TypePath) : Bool := c.isNone || isSomeEq c ty

theorem relevantTo_and_dedicated (ty : TypePath) (c : Option TypePath) :
    (relevantTo ty c && isSomeEq c ty) = isSomeEq c ty := by
  unfold relevantTo
  cases c.isNone <;> cases isSomeEq c ty <;> rfl

theorem relevantTo_and_default (ty : TypePath) (c : Option TypePath) : (relevantTo ty c && c.isNone) = c.isNone := by
  unfold relevantTo
  cases c.isNone <;> cases isSomeEq c ty <;> rfl

theorem findDedicatedOrDefault_eq_or {α} (xs : List α) (ok : α → Bool) (cty : α → Option TypePath)
    (ty : TypePath) :
    findDedicatedOrDefault xs ok cty ty
      = (xs.find? fun x => ok x && isSomeEq (cty x) ty).or (xs.find? fun x => ok x && (cty x).isNone) := by
  simp only [findDedicatedOrDefault, Option.orElse_eq_orElse, Option.orElse_eq_or]

theorem findDedicatedOrDefault_filter_ok {α} (xs : List α) (p ok : α → Bool) (cty : α → Option TypePath)
    (ty : TypePath) :
    findDedicatedOrDefault (xs.filter p) ok cty ty = findDedicatedOrDefault xs (fun x => p x && ok x) cty ty := by
  simp only [findDedicatedOrDefault, List.find?_filter, Bool.decide_and, Bool.decide_eq_true, Bool.and_assoc]

/-- projection lemma: dropping the instructions dedicated to *other* counterparts never changes a lookup for `ty` -/
theorem findDedicatedOrDefault_filter {α} (xs : List α) (ok : α → Bool) (cty : α → Option TypePath) (ty : TypePath) :
    findDedicatedOrDefault (xs.filter fun x => relevantTo ty (cty x)) ok cty ty = findDedicatedOrDefault xs ok cty ty := by
  unfold findDedicatedOrDefault
  simp only [List.find?_filter, Bool.decide_and, Bool.decide_eq_true, Bool.and_left_comm (relevantTo _ _), relevantTo_and_dedicated, relevantTo_and_default]

/-- non-interference: an element that is not applicable (`ok y = false`) or dedicated to another counterpart can be
    inserted anywhere without changing the result -/
theorem findDedicatedOrDefault_insert_irrelevant {α} (pre post : List α) (y : α) (ok : α → Bool) (cty : α → Option TypePath)
    (ty : TypePath) (h : (ok y && relevantTo ty (cty y)) = false) :
    findDedicatedOrDefault (pre ++ y :: post) ok cty ty = findDedicatedOrDefault (pre ++ post) ok cty ty := by
  have h1 : (ok y && isSomeEq (cty y) ty) = false := by
    rw [← relevantTo_and_dedicated ty, ← Bool.and_assoc, h, Bool.false_and]
  have h2 : (ok y && (cty y).isNone) = false := by
    rw [← relevantTo_and_default ty, ← Bool.and_assoc, h, Bool.false_and]
  simp only [findDedicatedOrDefault, List.find?_append, List.find?_cons, h1, h2]

/-- a dedicated instruction beats every default one, wherever they stand -/
theorem findDedicatedOrDefault_dedicated_wins {α} (xs : List α) (ok : α → Bool) (cty : α → Option TypePath) (ty : TypePath)
    (x : α) (hx : x ∈ xs) (hok : ok x = true) (hd : isSomeEq (cty x) ty = true) :
    ∃ r, findDedicatedOrDefault xs ok cty ty = some r ∧ ok r = true ∧ isSomeEq (cty r) ty = true := by
  have hsome : (xs.find? fun x => ok x && isSomeEq (cty x) ty).isSome = true :=
    List.find?_isSome.mpr ⟨x, hx, Bool.and_eq_true_iff.mpr ⟨hok, hd⟩⟩
  obtain ⟨r, hf⟩ := Option.isSome_iff_exists.mp hsome
  have hr := List.find?_some hf
  rw [findDedicatedOrDefault_eq_or, hf]
  exact ⟨r, Option.some_or, Bool.and_eq_true_iff.mp hr⟩

/-- without a dedicated instruction the first applicable default is taken -/
theorem findDedicatedOrDefault_default {α} (xs : List α) (ok : α → Bool) (cty : α → Option TypePath) (ty : TypePath)
    (hnone : ∀ x ∈ xs, (ok x && isSomeEq (cty x) ty) = false) :
    findDedicatedOrDefault xs ok cty ty = xs.find? (fun x => ok x && (cty x).isNone) := by
  have hded := List.find?_eq_none.mpr fun x hx => Bool.eq_false_iff.mp (hnone x hx)
  rw [findDedicatedOrDefault_eq_or, hded, Option.none_or]

theorem findDedicatedOrDefault_map {α β : Type} (g : α → β) (ok : β → Bool) (cty : β → Option TypePath)
    (ty : TypePath) (l : List α) :
    (findDedicatedOrDefault l (fun x => ok (g x)) (fun x => cty (g x)) ty).map g
      = findDedicatedOrDefault (l.map g) ok cty ty := by
  simp only [findDedicatedOrDefault_eq_or, Option.map_or, List.find?_map, Function.comp_def]

theorem findDedicatedOrDefault_some {α : Type} {xs : List α} {ok : α → Bool} {cty : α → Option TypePath} {ty : TypePath} {x : α}
    (h : findDedicatedOrDefault xs ok cty ty = some x) : x ∈ xs ∧ (isSomeEq (cty x) ty = true ∨ (cty x).isNone = true) := by
  rw [findDedicatedOrDefault_eq_or, Option.or_eq_some_iff] at h
  rcases h with h | ⟨_, h⟩
  · have hx := List.find?_some h
    exact ⟨List.mem_of_find?_eq_some h, Or.inl (Bool.and_eq_true_iff.mp hx).2⟩
  · have hx := List.find?_some h
    exact ⟨List.mem_of_find?_eq_some h, Or.inr (Bool.and_eq_true_iff.mp hx).2⟩

end O2o
