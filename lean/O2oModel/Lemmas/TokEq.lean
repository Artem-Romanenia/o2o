/-
`==` on tokens and token streams is equality (the `BEq Tok` instance is a hand-written structural comparison).
-/
import O2oModel.Tok
namespace O2o

mutual
theorem Tok.beq_iff : ∀ (a b : Tok), Tok.beq a b = true ↔ a = b
  | .group d a, .group e b => by
    simp only [Tok.beq, Bool.and_eq_true, beq_iff_eq, Tok.group.injEq, Tok.beqList_iff a b]
  -- a token without subtrees: `Tok.beq` compares the payloads, and is `false` against any other constructor
  | .ident _, b | .lit _, b | .punct _ _, b => by cases b <;> simp [Tok.beq]
  | .group _ _, .ident _ | .group _ _, .lit _ | .group _ _, .punct _ _ => by simp [Tok.beq]
theorem Tok.beqList_iff : ∀ (a b : List Tok), Tok.beqList a b = true ↔ a = b
  | [], [] | [], _ :: _ | _ :: _, [] => by simp [Tok.beqList]
  | a :: as, b :: bs => by
    simp only [Tok.beqList, Bool.and_eq_true, List.cons.injEq, Tok.beq_iff a b, Tok.beqList_iff as bs]
end

instance : LawfulBEq Tok where
  eq_of_beq {a b} h := (Tok.beq_iff a b).mp h
  rfl {a} := (Tok.beq_iff a a).mpr rfl

end O2o
