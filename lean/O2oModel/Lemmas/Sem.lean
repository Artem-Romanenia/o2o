/-
Lemmas tying the emitted member lines of a plain struct conversion to the record semantics of `O2oModel/Sem.lean`.
The lemmas about bodies speak of any list `l : List α` with the two member names of an element given by functions, so
that the value theorems instantiate them without re-indexing their list of members.
-/
import O2oModel.Sem
import O2oModel.Lemmas.Blocks
namespace O2o
open Sem
variable {α : Type}

def tokLine (slot obj m : String) : TS :=
  [.ident slot, .punct ':' false, .ident obj, .punct '.' false, .ident m, .punct ',' false]

def tokAssign (slot obj m : String) : TS :=
  [.ident "other", .punct '.' false, .ident slot, .punct '=' false, .ident obj, .punct '.' false, .ident m, .punct ';' false]

/-- member `f`, named `n`, is mapped plainly to the counterpart member `x`: no instruction applies (then `x = n`) or a
    rename without expression applies; it is not flattened and takes part in this conversion -/
structure Simple (ctx : ImplContext) (f : Field) (n x : String) : Prop where
  named : f.member = .named n
  noChild : f.attrs.child ctx.ty = none
  notSkipped : fieldSkipped ctx f = false
  how : (f.attrs.applicableAttr ctx.kind ctx.fallible ctx.ty = none ∧ f.attrs.hasParentAttr ctx.ty = false ∧ x = n) ∨
        (∃ c, f.attrs.applicableAttr ctx.kind ctx.fallible ctx.ty = some (.field c) ∧ c.member = some (.named x) ∧ c.action = none)

def simpleLine (k : KC) (n x : String) : TS :=
  match k with
  | .from_ => tokLine n "value" x
  | .into => tokLine x "self" n
  | .existing => tokAssign x "self" n

theorem flatLines_of_lines (ctx : ImplContext) (hint : TypeHint) (fld : α → Field) (line : α → TS) :
    ∀ (l : List α) (idx : Nat),
      (∀ a ∈ l, fieldSkipped ctx (fld a) = false ∧ ∀ k, renderStructLine (fld a) ctx hint k none = .ok (line a)) →
      flatLines ctx hint (l.map fld) idx = .ok (l.flatMap line)
  | [], _, _ => rfl
  | a :: l, idx, h => by
    have hf := h a List.mem_cons_self
    have ih := flatLines_of_lines ctx hint fld line l (idx + 1) (fun b hb => h b (List.mem_cons_of_mem _ hb))
    simp [flatLines, hf.1, hf.2 idx, ih, bind, Except.bind, pure, Except.pure]

theorem parseLines_tokLines (obj : String) (slot mem : α → String) : ∀ (l : List α) (fuel : Nat),
    (l.flatMap fun a => tokLine (slot a) obj (mem a)).length < fuel →
    parseLines fuel (l.flatMap fun a => tokLine (slot a) obj (mem a)) =
      some (l.map fun a => { slot := slot a, obj := obj, member := mem a })
  | [], _, _ => by simp [parseLines]
  | _ :: _, 0, h => by simp at h
  | a :: l, n + 1, h => by
    have ih := parseLines_tokLines obj slot mem l n (by simp [tokLine] at h ⊢; omega)
    simp only [List.flatMap_cons, tokLine, List.cons_append, List.nil_append, parseLines, List.map_cons] at ih ⊢
    rw [ih]
    rfl

theorem evalLines_map (obj : String) (src : Rec) (slot mem : α → String) : ∀ (l : List α),
    evalLines obj src (l.map fun a => { slot := slot a, obj := obj, member := mem a }) =
      l.mapM (fun a => (src.get? (mem a)).map fun v => (slot a, v))
  | [] => rfl
  | a :: l => by
    simp only [List.map_cons, evalLines, beq_self_eq_true, ↓reduceIte, List.mapM_cons, evalLines_map obj src slot mem l]
    cases src.get? (mem a) <;> cases (l.mapM fun a => (src.get? (mem a)).map fun v => (slot a, v)) <;> rfl

theorem evalInit_tokLines (obj : String) (src : Rec) (l : List α) (slot mem : α → String) :
    evalInit obj src (l.flatMap fun a => tokLine (slot a) obj (mem a)) =
      l.mapM (fun a => (src.get? (mem a)).map fun v => (slot a, v)) := by
  rw [evalInit, parseLines_tokLines obj slot mem l _ (Nat.lt_succ_self _)]
  exact evalLines_map obj src slot mem l

theorem recGet_cons_self (k : String) (v : Val) (r : Rec) : Rec.get? ((k, v) :: r) k = some v := by
  simp [Rec.get?, List.find?]

theorem recGet_cons_ne (k k' : String) {v : Val} {r : Rec} (h : k ≠ k') :
    Rec.get? ((k, v) :: r) k' = Rec.get? r k' := by
  have hb : (k == k') = false := by simpa using h
  simp [Rec.get?, List.find?, hb]

/-- reading a freshly built record back: when no two elements write the same member `k a`, each holds its value `g a` -/
theorem mapM_get {k : α → String} {g : α → Option Val} : ∀ (l : List α) (r : Rec),
    l.mapM (fun a => (g a).map fun v => (k a, v)) = some r → (l.map k).Nodup → ∀ a ∈ l, Rec.get? r (k a) = g a
  | [], _, _, _, _, ha => nomatch ha
  | b :: l, r, hr, hnd, a, ha => by
    simp only [List.mapM_cons, Option.bind_eq_bind, Option.bind_eq_some_iff, Option.map_eq_some_iff, Option.pure_def,
      Option.some.injEq] at hr
    obtain ⟨_, ⟨v, hv, rfl⟩, r', hr', rfl⟩ := hr
    obtain ⟨hnot, hnd'⟩ := List.nodup_cons.mp hnd
    rcases List.mem_cons.mp ha with rfl | ha'
    · rw [recGet_cons_self, hv]
    · rw [recGet_cons_ne (k b) (k a) fun e => hnot (e ▸ List.mem_map_of_mem ha')]
      exact mapM_get l r' hr' hnd' a ha'

theorem parseAssigns_tok (obj : String) (slot mem : α → String) : ∀ (l : List α) (fuel : Nat),
    (l.flatMap fun a => tokAssign (slot a) obj (mem a)).length < fuel →
    parseAssigns fuel (l.flatMap fun a => tokAssign (slot a) obj (mem a)) =
      some (l.map fun a => { slot := slot a, obj := obj, member := mem a })
  | [], _, _ => by simp [parseAssigns]
  | _ :: _, 0, h => by simp at h
  | a :: l, n + 1, h => by
    have ih := parseAssigns_tok obj slot mem l n (by simp [tokAssign] at h ⊢; omega)
    simp only [List.flatMap_cons, tokAssign, List.cons_append, List.nil_append, parseAssigns, List.map_cons] at ih ⊢
    rw [ih]
    rfl

theorem execAssigns_spec (obj : String) (src : Rec) : ∀ (l : List α) (slot mem : α → String) (other : Rec),
    (∀ a ∈ l, (src.get? (mem a)).isSome) →
    ∃ r, execAssigns obj src (l.map fun a => { slot := slot a, obj := obj, member := mem a }) other = some r ∧
      (∀ k, k ∉ l.map slot → Rec.get? r k = Rec.get? other k) ∧
      ((l.map slot).Nodup → ∀ a ∈ l, Rec.get? r (slot a) = src.get? (mem a))
  | [], _, _, other, _ => ⟨other, rfl, fun _ _ => rfl, fun _ _ h => nomatch h⟩
  | b :: l, slot, mem, other, hdef => by
    obtain ⟨v, hv⟩ := Option.isSome_iff_exists.mp (hdef b List.mem_cons_self)
    obtain ⟨r, hr, hout, hin⟩ :=
      execAssigns_spec obj src l slot mem (Rec.set other (slot b) v) (fun a ha => hdef a (List.mem_cons_of_mem _ ha))
    refine ⟨r, by simp [execAssigns, hv, hr], fun k hk => ?_, fun hnd a ha => ?_⟩
    · obtain ⟨hk1, hk2⟩ := not_or.mp (mt List.mem_cons.mpr hk)
      rw [hout k hk2, Rec.set, recGet_cons_ne _ _ (Ne.symm hk1)]
    · obtain ⟨hnot, hnd'⟩ := List.nodup_cons.mp hnd
      rcases List.mem_cons.mp ha with rfl | ha'
      · rw [hout _ hnot, Rec.set, recGet_cons_self, hv]
      · exact hin hnd' a ha'

end O2o
