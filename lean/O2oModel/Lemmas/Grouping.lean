/-
`#[o2o(a(..), b, c(..))]`: the list parser run on a comma-separated sequence of `name` / `name(args)` elements
yields the instruction parser's result for each element, in order (C13, grouping clause); and the two attribute loops
(`get_data_type_attrs`, `get_member_attrs`) as `foldlM` of one step, `attrStep`, with what the grouped and the bare
spelling of a list push onto their state.
-/
import O2oModel.Ast
import O2oModel.Lemmas.Basic
namespace O2o

/-- one element of an `#[o2o(..)]` list as tokens: `name` or `name(args)` -/
def elemTokens (e : String × Option TS) : TS :=
  match e.2 with
  | some c => [.ident e.1, .group .paren c]
  | none => [.ident e.1]

/-- a comma-separated list of elements (no trailing comma) -/
def o2oTokens : List (String × Option TS) → TS
  | [] => []
  | [e] => elemTokens e
  | e :: rest => elemTokens e ++ [p ','] ++ o2oTokens rest

section
variable {α : Type} (b : Back) (f : String → TS → Except PErr α)

/-- the instruction parser's view of an element -/
def elemResult (e : String × Option TS) : Except PErr α := f e.1 (e.2.getD [])

theorem o2oElem_run (e : String × Option TS) (rest : TS) (u : Bool) (hk : isKeyword b e.1 = false)
    (hr : headIsGroup .paren rest = false) :
    (o2oElem b f) { toks := elemTokens e ++ rest, unexp := u } =
      (match elemResult f e with
       | .ok x => .ok (x, { toks := rest, unexp := u })
       | .error err => .error err) := by
  obtain ⟨n, c⟩ := e
  have hg : ∀ c, headIsGroup .paren (.group .paren c :: rest) = true := fun _ => rfl
  cases c
  all_goals
    simp [elemTokens, elemResult, o2oElem, parseIdent, toks, setToks, peekGroup, hr, hg, enterGroup, withContent, takeAll,
      liftE, show isKeyword b n = false from hk, bind, StateT.bind, StateT.get, get, getThe, MonadStateOf.get, StateT.modifyGet,
      modify, modifyGet, MonadStateOf.modifyGet, MonadState.modifyGet, pure, StateT.pure, Except.pure, Except.bind, throw, throwThe,
      MonadExceptOf.throw]
    cases f n _ <;> simp [pure, StateT.pure, Except.pure, StateT.lift, Except.bind, bind]

/-- results of all elements, in order; the first failing element's error -/
def allResults : List (String × Option TS) → Except PErr (List α)
  | [] => .ok []
  | e :: rest =>
    match elemResult f e with
    | .error err => .error err
    | .ok x => match allResults rest with
      | .error err => .error err
      | .ok xs => .ok (x :: xs)

theorem headIsGroup_o2oTokens_comma (rest : List (String × Option TS)) :
    headIsGroup .paren ([p ','] ++ o2oTokens rest) = false := rfl

theorem parsePuncts_comma (r : TS) (u : Bool) :
    parsePuncts "," { toks := p ',' :: r, unexp := u } = .ok ((), { toks := r, unexp := u }) := rfl

theorem parseTerminatedAux_succ (elem : P α) (n : Nat) (acc : List α) (s : PS) (hne : s.toks.isEmpty = false) :
    parseTerminatedAux elem (n + 1) acc s = (do
      let (x, s') ← elem s
      if s'.toks.isEmpty then pure ((x :: acc).reverse, s') else do
        let (_, s'') ← parsePuncts "," s'
        parseTerminatedAux elem n (x :: acc) s'') := by
  simp only [parseTerminatedAux, isEmpty, toks, bind, StateT.bind, StateT.get, get, getThe, MonadStateOf.get, pure, StateT.pure,
    Except.pure, Except.bind, hne, Bool.false_eq_true, ↓reduceIte]
  cases elem s with
  | error err => rfl
  | ok v =>
    simp only []
    split <;> rfl

theorem parseTerminatedAux_o2o (items : List (String × Option TS)) (hk : ∀ e ∈ items, isKeyword b e.1 = false) :
    ∀ (fuel : Nat) (acc : List α) (u : Bool), (o2oTokens items).length < fuel →
      parseTerminatedAux (o2oElem b f) fuel acc { toks := o2oTokens items, unexp := u } =
        (match allResults f items with
         | .ok xs => .ok (acc.reverse ++ xs, { toks := [], unexp := u })
         | .error err => .error err) := by
  induction items with
  | nil =>
    intro fuel acc u hf
    cases fuel with
    | zero => simp at hf
    | succ n =>
      simp [parseTerminatedAux, o2oTokens, allResults, isEmpty, toks, bind, StateT.bind, StateT.get, get, getThe, MonadStateOf.get,
        pure, StateT.pure, Except.pure, Except.bind]
  | cons e rest ih =>
    intro fuel acc u hf
    cases fuel with
    | zero => simp at hf
    | succ n =>
      have hke : isKeyword b e.1 = false := hk e (List.mem_cons_self)
      have hne : ∀ tail, (elemTokens e ++ tail).isEmpty = false := by
        obtain ⟨n', c⟩ := e
        cases c <;> intro _ <;> rfl
      cases rest with
      | nil =>
        rw [o2oTokens, ← List.append_nil (elemTokens e), parseTerminatedAux_succ _ _ _ _ (hne []),
          o2oElem_run b f e [] u hke rfl, allResults]
        cases elemResult f e with
        | error err => rfl
        | ok x => simp [allResults, bind, Except.bind, pure, Except.pure]
      | cons e2 rest2 =>
        have htoks : o2oTokens (e :: e2 :: rest2) = elemTokens e ++ (p ',' :: o2oTokens (e2 :: rest2)) := by
          simp [o2oTokens]
        rw [htoks, parseTerminatedAux_succ _ _ _ _ (hne _), o2oElem_run b f e _ u hke rfl, allResults]
        cases elemResult f e with
        | error err => rfl
        | ok x =>
          -- the element and its comma are gone from the buffer: the fuel left is enough
          have hn : (o2oTokens (e2 :: rest2)).length < n := by
            simp only [htoks, List.length_append, List.length_cons] at hf
            omega
          have := ih (fun e' h => hk e' (List.mem_cons_of_mem _ h)) n (x :: acc) u hn
          simp only [bind, Except.bind, List.isEmpty_cons, Bool.false_eq_true, ↓reduceIte, parsePuncts_comma, this]
          cases allResults f (e2 :: rest2) <;> simp

/-- `syn::parse2` of the whole `#[o2o(..)]` list: exactly the per-element results, in order, first error wins -/
theorem parse2_o2o_list (items : List (String × Option TS)) (hk : ∀ e ∈ items, isKeyword b e.1 = false) :
    parse2 (parseTerminated (o2oElem b f)) (o2oTokens items) = allResults f items := by
  unfold parse2 parseTerminated
  simp only [toks, bind, StateT.bind, StateT.get, get, getThe, MonadStateOf.get, pure, StateT.pure, Except.pure, Except.bind]
  rw [parseTerminatedAux_o2o b f items hk _ [] false (Nat.lt_succ_self _)]
  cases allResults f items with
  | error err => rfl
  | ok xs => simp

end

/-- the bare spelling `#[name(args)]` / `#[name]` of one list element -/
def bareAttr (e : String × Option TS) : RawAttr :=
  ⟨[.ident e.1], match e.2 with | some ts => .list .paren ts | none => .path⟩

/-- the grouped spelling `#[o2o(e1, e2, ..)]` -/
def groupAttr (items : List (String × Option TS)) : RawAttr := ⟨[.ident "o2o"], .list .paren (o2oTokens items)⟩

def DataTypeInstruction.isAllowUnknown : DataTypeInstruction → Bool
  | .allowUnknown => true
  | _ => false

section
variable {σ ι : Type} (b : Back) (grp : String → TS → Except PErr ι) (bare : σ → String → TS → Except PErr ι)
  (pushG pushB : σ → List ι → σ)

/-- what one attribute does to the state of either loop: `grp` parses the elements of an `#[o2o(..)]` list,
    `bare` any other `#[name ..]`; `#[doc ..]` and paths that are no single name are passed over -/
def attrStep (acc : σ) (x : RawAttr) : Except PErr σ :=
  match x.ident? with
  | some "doc" => .ok acc
  | some "o2o" => do
    let ts ← o2oArgTokens x
    let new ← parse2 (parseTerminated (o2oElem b grp)) ts
    pure (pushG acc new)
  | some instr => do
    let ts ← bareAttrTokens b x
    let i ← bare acc instr ts
    pure (pushB acc [i])
  | none => .ok acc

theorem attrStep_group (items : List (String × Option TS)) (acc : σ) (hk : ∀ e ∈ items, isKeyword b e.1 = false) :
    attrStep b grp bare pushG pushB acc (groupAttr items) = (allResults grp items).map (pushG acc) := by
  rw [← parse2_o2o_list b grp items hk]
  -- `groupAttr items` is named `o2o` and its argument tokens are `o2oTokens items`
  rfl

theorem attrStep_bare (n : String) (c : Option TS) (acc : σ) (hd : n ≠ "doc") (ho : n ≠ "o2o") :
    attrStep b grp bare pushG pushB acc (bareAttr (n, c)) = (bare acc n (c.getD [])).map fun i => pushB acc [i] := by
  have hid : (bareAttr (n, c)).ident? = some n := rfl
  have htok : bareAttrTokens b (bareAttr (n, c)) = .ok (c.getD []) := by
    cases c <;> cases b <;> rfl
  -- `simp` rules out the arms `some "doc"`, `some "o2o"` of the `match` by `hd`, `ho`
  simp only [attrStep, hid, htok]
  rfl

theorem foldlM_bareAttrs (items : List (String × Option TS)) (acc : σ) (hn : ∀ e ∈ items, e.1 ≠ "doc" ∧ e.1 ≠ "o2o")
    (hnil : ∀ acc, pushB acc [] = acc) (happ : ∀ acc xs ys, pushB (pushB acc xs) ys = pushB acc (xs ++ ys))
    (hb : ∀ acc xs, bare (pushB acc xs) = bare acc) :
    (items.map bareAttr).foldlM (attrStep b grp bare pushG pushB) acc = (allResults (bare acc) items).map (pushB acc) := by
  induction items generalizing acc with
  | nil => exact congrArg Except.ok (hnil acc).symm
  | cons e rest ih =>
    obtain ⟨hd, ho⟩ := hn e List.mem_cons_self
    rw [List.map_cons, List.foldlM_cons, attrStep_bare b grp bare pushG pushB e.1 e.2 acc hd ho, allResults, elemResult]
    cases bare acc e.1 (e.2.getD []) with
    | error err => rfl
    | ok i =>
      simp only [Except.map, bind, Except.bind]
      rw [ih _ fun e' he' => hn e' (List.mem_cons_of_mem _ he'), hb]
      cases allResults (bare acc) rest with
      | error err => rfl
      | ok xs => exact congrArg Except.ok (happ acc [i] xs)

end

def dataTypeAttrStep (b : Back) : DTAcc → RawAttr → Except PErr DTAcc :=
  attrStep b (fun instr c => parseDataTypeInstruction b instr c true true)
    (fun acc instr ts => parseDataTypeInstruction b instr ts false acc.bark)
    (fun acc new => { instrs := acc.instrs ++ new, bark := if new.any (·.isAllowUnknown) then false else acc.bark })
    (fun acc new => { acc with instrs := acc.instrs ++ new })

theorem collectDataTypeInstrs_eq (b : Back) :
    collectDataTypeInstrs b = fun xs acc => xs.foldlM (dataTypeAttrStep b) acc := by
  funext xs acc
  induction xs generalizing acc with
  | nil => rfl
  | cons x rest ih =>
    rw [collectDataTypeInstrs, List.foldlM_cons, dataTypeAttrStep, attrStep]
    -- arm by arm the `match` of the loop is that of `attrStep`, followed by the recursive call (`ih`)
    split <;> simp only [*, bind_assoc, pure_bind] <;> rfl

def memberAttrStep (b : Back) (bark : Bool) : List MemberInstruction → RawAttr → Except PErr (List MemberInstruction) :=
  attrStep b (fun instr c => parseMemberInstruction b instr c true true)
    (fun _ instr ts => parseMemberInstruction b instr ts false bark) (· ++ ·) (· ++ ·)

theorem collectMemberInstrs_eq (b : Back) (bark : Bool) :
    collectMemberInstrs b bark = fun xs acc => xs.foldlM (memberAttrStep b bark) acc := by
  funext xs acc
  induction xs generalizing acc with
  | nil => rfl
  | cons x rest ih =>
    rw [collectMemberInstrs, List.foldlM_cons, memberAttrStep, attrStep]
    split <;> simp only [*, bind_assoc, pure_bind] <;> rfl

/-- the loop is a left fold over the attributes: what an attribute contributes depends only on what came before it -/
theorem collect_append (b : Back) (xs ys : List RawAttr) (acc : DTAcc) :
    collectDataTypeInstrs b (xs ++ ys) acc = (collectDataTypeInstrs b xs acc).bind (collectDataTypeInstrs b ys) := by
  simp only [collectDataTypeInstrs_eq]
  exact List.foldlM_append

/-- the grouped attribute appends the whole parsed list — every element, in the written order — and turns the
    `allow_unknown` switch off for the attributes that follow when (and only when) one of its elements is the switch -/
theorem collect_group (b : Back) (items : List (String × Option TS)) (rest : List RawAttr) (acc : DTAcc)
    (hk : ∀ e ∈ items, isKeyword b e.1 = false) :
    collectDataTypeInstrs b (groupAttr items :: rest) acc =
      (match allResults (fun instr c => parseDataTypeInstruction b instr c true true) items with
       | .ok xs => collectDataTypeInstrs b rest
           { instrs := acc.instrs ++ xs, bark := if xs.any DataTypeInstruction.isAllowUnknown then false else acc.bark }
       | .error e => .error e) := by
  simp only [collectDataTypeInstrs_eq, List.foldlM_cons]
  rw [dataTypeAttrStep, attrStep_group _ _ _ _ _ items acc hk]
  cases allResults (fun instr c => parseDataTypeInstruction b instr c true true) items <;> rfl

theorem allResults_eq_mapM {α : Type} (f : String → TS → Except PErr α) (items : List (String × Option TS)) :
    allResults f items = items.mapM (elemResult f) := by
  induction items with
  | nil => rfl
  | cons e rest ih =>
    rw [allResults, List.mapM_cons, ← ih]
    cases elemResult f e with
    | error err => rfl
    | ok x => cases allResults f rest <;> rfl

/-- nothing is dropped from a list: the result has one instruction per element, the k-th one built from the k-th element -/
theorem allResults_get {α : Type} (f : String → TS → Except PErr α) (items : List (String × Option TS)) (xs : List α)
    (h : allResults f items = .ok xs) :
    xs.length = items.length ∧ ∀ k (hk : k < items.length) (hk' : k < xs.length), elemResult f items[k] = .ok xs[k] := by
  rw [allResults_eq_mapM] at h
  exact ⟨mapM_ok_length h, mapM_ok_getElem h⟩

end O2o
