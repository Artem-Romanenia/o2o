/-
The validator only ever adds diagnostics: every pass is extensive on the error collection (`Ext`), so a diagnostic that
one step of one pass puts in is still there at the end (`mem_foldl_of_step`, `foldl_snd_mem_of_step`).
-/
import O2oModel.Validate
namespace O2o

def Ext (f : Errors → Errors) : Prop := ∀ es m, m ∈ es → m ∈ f es

theorem mem_insert_self {es : Errors} {m : String} : m ∈ es.insert m := by
  unfold Errors.insert
  split
  next h => simpa using h
  · simp

theorem mem_insert_of_mem {es : Errors} {m m' : String} (h : m ∈ es) : m ∈ es.insert m' := by
  unfold Errors.insert
  split
  · exact h
  · simp [h]

theorem ext_id : Ext id := fun _ _ h => h
theorem ext_insert (m' : String) : Ext (fun es => es.insert m') := fun _ _ h => mem_insert_of_mem h
theorem ext_comp {f g : Errors → Errors} (hf : Ext f) (hg : Ext g) : Ext (g ∘ f) := fun es m h => hg _ _ (hf es m h)

theorem ext_iteP (c : Prop) [Decidable c] {f g : Errors → Errors} (hf : Ext f) (hg : Ext g) :
    Ext (fun es => if c then f es else g es) := by
  intro es m h
  split
  · exact hf es m h
  · exact hg es m h

theorem ext_ite (c : Bool) {f g : Errors → Errors} (hf : Ext f) (hg : Ext g) : Ext (fun es => if c then f es else g es) :=
  ext_iteP (c = true) hf hg

/-- the validator's elementary step: one diagnostic, under a condition -/
theorem mem_insertIf {es : Errors} {m : String} {c : Prop} [Decidable c] {m' : String} (h : m ∈ es) :
    m ∈ if c then es.insert m' else es :=
  ext_iteP c (ext_insert m') ext_id es m h

theorem mem_insertIf_self {c : Prop} [Decidable c] {es : Errors} {m : String} (hc : c) : m ∈ if c then es.insert m else es := by
  rw [if_pos hc]
  exact mem_insert_self

theorem mem_foldl_of_mem {α} {xs : List α} {step : Errors → α → Errors} {es : Errors} {m : String}
    (h : ∀ x es, m ∈ es → m ∈ step es x) (hm : m ∈ es) : m ∈ xs.foldl step es :=
  List.foldlRecOn (motive := (m ∈ ·)) xs step hm fun es hes x _ => h x es hes

theorem ext_foldl {α} {xs : List α} {step : Errors → α → Errors} (h : ∀ x, Ext (fun es => step es x)) :
    Ext (fun es => xs.foldl step es) :=
  fun _ m hm => mem_foldl_of_mem (fun x es hm => h x es m hm) hm

theorem mem_foldl_of_step {α} {xs : List α} {step : Errors → α → Errors} {es : Errors} {m : String} {x : α} (hx : x ∈ xs)
    (hext : ∀ y es, m ∈ es → m ∈ step es y) (hstep : ∀ es, m ∈ step es x) : m ∈ xs.foldl step es := by
  obtain ⟨pre, post, rfl⟩ := List.append_of_mem hx
  rw [List.foldl_append, List.foldl_cons]
  exact mem_foldl_of_mem hext (hstep _)

theorem ext_foldl_snd {α σ} (xs : List α) (step : σ × Errors → α → σ × Errors)
    (h : ∀ x s es m, m ∈ es → m ∈ (step (s, es) x).2) :
    ∀ s es m, m ∈ es → m ∈ (xs.foldl step (s, es)).2 := by
  induction xs with
  | nil => intro s es m hm; exact hm
  | cons x xs ih => intro s es m hm; exact ih _ _ m (h x s es m hm)

theorem foldl_snd_mem_of_inv {α σ} (I : σ → Prop) (mid post : List α) (a : α) (step : σ × Errors → α → σ × Errors) (msg : String)
    (hext : ∀ x s es m, m ∈ es → m ∈ (step (s, es) x).2)
    (hI : ∀ x s es, I s → I (step (s, es) x).1)
    (ha : ∀ s es, I s → msg ∈ (step (s, es) a).2) :
    ∀ s es, I s → msg ∈ ((mid ++ a :: post).foldl step (s, es)).2 := by
  induction mid with
  | nil => intro s es hs; exact ext_foldl_snd post step hext _ _ msg (ha s es hs)
  | cons x mid ih => intro s es hs; exact ih _ _ (hI x s es hs)

theorem foldl_snd_mem_of_step {α σ} (pre post : List α) (a : α) (step : σ × Errors → α → σ × Errors) (s0 : σ) (es0 : Errors) (msg : String)
    (hext : ∀ x s es m, m ∈ es → m ∈ (step (s, es) x).2)
    (ha : ∀ s es, msg ∈ (step (s, es) a).2) :
    msg ∈ ((pre ++ a :: post).foldl step (s0, es0)).2 :=
  foldl_snd_mem_of_inv (fun _ => True) pre post a step msg hext (fun _ _ _ _ => trivial) (fun s es _ => ha s es) s0 es0 trivial

end O2o
