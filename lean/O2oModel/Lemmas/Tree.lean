/-
The recursive descent of `struct_init_block_inner` over flattened members (C03) at depth ≤ 1: the sorted member list is a
sequence of segments, and the loop writes one fragment per segment.
-/
import O2oModel.Lemmas.Blocks
namespace O2o

/-- `p` sits exactly at the child path whose rendered prefix is `pfx` (depth `d`), for counterpart `ctx.ty` -/
def AtLeaf (ctx : ImplContext) (pfx : String) (d : Nat) (p : FieldContainer × Field) : Prop :=
  p.1.fieldData = .field p.2 ∧ p.1.path = pfx ∧
  ∃ ca, p.2.attrs.child ctx.ty = some ca ∧ ca.childPath.strs.length = d + 1

theorem AtLeaf.leafAt {ctx : ImplContext} {pfx : String} {d : Nat} {p : FieldContainer × Field}
    (h : AtLeaf ctx pfx d p) {cp : ChildPath} {crc : Option ChildRenderContext} (hpfx : cp.getStr (some d) = .ok pfx) :
    LeafAt ctx (some (cp, crc, d)) p.1 p.2 :=
  let ⟨hfd, hpath, ca, hca, hlen⟩ := h
  ⟨hfd, pfx, ca, hpfx, hpath, hca, hlen⟩

/-- what `render_child` must produce for a child whose members are `fs`: the nested struct is named once, built once,
    and holds one line per member (in order), the ghosts addressed to exactly this child, and `..update` -/
def childFragmentSpec (ctx : ImplContext) (named : Bool) (cp : ChildPath) (d : Nat) (cd : ChildRenderContext) (hint : TypeHint)
    (fs : List Field) : E TS := do
  let childName ← (match cp.path[d]? with
    | some m => pure m.toTS
    | none => panicAt "expand.rs:render_child:child_path index")
  let lines ← flatLines ctx cd.typeHint fs 0
  let g ← structGhostLines ctx (some (cp, some cd, d))
  let init ← wrapInit ctx cd.typeHint named (lines ++ g ++ updateToks ctx)
  let nr ← ctx.input.namedFields
  match nr, hint with
  | true, .struct | true, .unspecified => return childName ++ [colon] ++ exprPath cd.ty ++ init ++ [comma]
  | true, .tuple => return exprPath cd.ty ++ init ++ [comma]
  | false, .tuple | false, .unspecified => return exprPath cd.ty ++ init ++ [comma]
  | false, .struct => return childName ++ [colon] ++ exprPath cd.ty ++ init ++ [comma]
  | _, .unit => panicAt "expand.rs:render_child:unreachable(15)"

/-- a maximal run of the sorted member list: a member that is not flattened, or all members of one depth-1 child -/
inductive Segment
  | flat (fc : FieldContainer) (f : Field)
  | child (p0 : FieldContainer × Field) (block : List (FieldContainer × Field)) (ca : ChildAttr) (pfx : String) (cdata : ChildParentData)

def Segment.containers : Segment → List FieldContainer
  | .flat fc _ => [fc]
  | .child p0 block _ _ _ => (p0 :: block).map (·.1)

def Segment.headPath : Segment → String
  | .flat fc _ => fc.path
  | .child p0 _ _ _ _ => p0.1.path

def Segment.size : Segment → Nat
  | .flat _ _ => 1
  | .child _ block _ _ _ => block.length + 1

def Segment.ok (ctx : ImplContext) (cpa : ChildParentsAttr) : Segment → Prop
  | .flat fc f => fc.fieldData = .field f ∧ f.attrs.child ctx.ty = none
  | .child p0 block ca pfx cdata =>
    p0.2.attrs.child ctx.ty = some ca ∧ ca.childPath.strs = [pfx] ∧
    cpa.childParents.find? (fun cd => cd.fieldPathStr == pfx) = some cdata ∧
    (∀ p ∈ p0 :: block, AtLeaf ctx pfx 0 p) ∧ fieldSkipped ctx p0.2 = false

/-- segments are well formed and a child's run ends where a foreign member begins -/
def segmentsWf (ctx : ImplContext) (cpa : ChildParentsAttr) : List Segment → Prop
  | [] => True
  | s :: rest =>
    s.ok ctx cpa ∧
    (match s, rest with
     | .child _ _ _ pfx _, s' :: _ => pathMatches s'.headPath pfx = false
     | _, _ => True) ∧
    segmentsWf ctx cpa rest

/-- the specification of a whole (depth ≤ 1) body: one fragment per segment, in order; a child segment is one
    construction holding exactly its own members -/
def segmentsSpec (ctx : ImplContext) (nr : Bool) (hint : TypeHint) : List Segment → Nat → E TS
  | [], _ => .ok []
  | .flat _ f :: rest, idx =>
    if fieldSkipped ctx f then segmentsSpec ctx nr hint rest idx
    else do
      let l ← renderStructLine f ctx hint idx none
      let r ← segmentsSpec ctx nr hint rest (idx + 1)
      return l ++ r
  | .child p0 block ca _ cdata :: rest, idx => do
    let frag ← childFragmentSpec ctx nr ca.childPath 0 { ty := cdata.ty, typeHint := cdata.typeHint } hint ((p0 :: block).map (·.2))
    let r ← segmentsSpec ctx nr hint rest (idx + 1)
    return frag ++ r

def totalSize : List Segment → Nat
  | [] => 0
  | s :: rest => s.size + totalSize rest

/-- **C03, depth ≤ 1, any number of members and children**: the cursor loop over a sorted member list that is a sequence
    of well-formed segments produces exactly `segmentsSpec` — in particular every child struct is constructed exactly
    once and receives all and only its own members -/
theorem structInitLoop_segments (ctx : ImplContext) (named : Bool) (hint : TypeHint)
    (hk : ctx.kind.cls = .into) (cpa : ChildParentsAttr) (hcpa : ctx.input.attrs.childParentsAttr ctx.ty = some cpa)
    (nr : Bool) (hnr : ctx.input.namedFields = .ok nr) :
    ∀ (segs : List Segment) (fuel : Nat) (frags : TS) (idx : Nat),
      totalSize segs + 8 < fuel → segmentsWf ctx cpa segs →
      structInitLoop fuel (segs.flatMap Segment.containers) named ctx none hint frags idx =
        accum frags [] (segmentsSpec ctx nr hint segs idx)
  | [], fuel + 1, frags, idx, _, _ => structInitLoop_end (lvl := none) rfl
  | .flat fc f :: rest, fuel + 2, frags, idx, hf, ⟨hok, _, hwf'⟩ =>
    structInitLoop_leaf_acc (Or.inl rfl) hok (segmentsSpec ctx nr hint rest)
      (fun frags idx => structInitLoop_segments ctx named hint hk cpa hcpa nr hnr rest (fuel + 1) frags idx
        (by simp [totalSize, Segment.size] at hf; omega) hwf') frags idx
  | .child p0 block ca pfx cdata :: rest, fuel + 4, frags, idx, hf, ⟨⟨hca0, hstrs, hfind, hall, hns⟩, hsep, hwf'⟩ => by
    have hget : ca.childPath.getStr (some 0) = .ok pfx := by simp [ChildPath.getStr, hstrs]
    have hend : endOk (some (ca.childPath, some { ty := cdata.ty, typeHint := cdata.typeHint }, 0))
        (rest.flatMap Segment.containers) := by
      refine ⟨pfx, hget, ?_⟩
      cases rest with
      | nil => exact Or.inl rfl
      | cons s' rest' => cases s' <;> exact Or.inr ⟨_, _, rfl, hsep⟩
    simp only [totalSize, Segment.size] at hf
    -- the child's own members, three calls down
    have hkids := loop_leaf_block (Or.inr (cls_into_not_from hk)) (·.1) (·.2) nr cdata.typeHint hend (p0 :: block)
      fuel [] 0 (by simp; omega) (fun p hp => (hall p hp).leafAt hget)
    simp only [List.flatMap_cons, Segment.containers, segmentsSpec, childFragmentSpec, hnr, ok_bind, List.map_cons,
      List.cons_append] at hkids ⊢
    exact structInitLoop_child_acc (lvl := none) rfl (hall p0 List.mem_cons_self).1 hns hca0
      (renderChildFragment_into (lvl := none) hk hcpa hnr rfl hget hfind hint hkids)
      (fun frags => structInitLoop_segments ctx named hint hk cpa hcpa nr hnr rest (fuel + 3) frags (idx + 1) (by omega) hwf') frags

end O2o
