/-
The recursive descent of `struct_init_block_inner`, one step of the loop at a time, as far as the C01 / C03 development
meets it (not `render_parent_child_fragment`, nor the loop's arm for a struct-level ghost entry). `accum frags rest x` is
the shape all these theorems share: the loop started with `frags` already written yields `frags` followed by what the
level's specification `x` yields, and leaves the members `rest`.
-/
import O2oModel.Lemmas.Lines
namespace O2o

def accum {ρ : Type} (frags : TS) (rest : ρ) (x : E TS) : E (TS × ρ) :=
  match x with
  | .ok ts => .ok (frags ++ ts, rest)
  | .error e => .error e

theorem accum_bind {ρ : Type} {x y : E TS} {frags : TS} {rest : ρ} :
    (x >>= fun l => accum (frags ++ l) rest y) = accum frags rest (do let l ← x; let r ← y; pure (l ++ r)) := by
  cases x <;> cases y <;> simp [accum, bind, Except.bind, pure, Except.pure, List.append_assoc]

theorem accum_ok_iff {ρ : Type} (frags : TS) (rest : ρ) (x : E TS) (r : TS × ρ) :
    accum frags rest x = .ok r ↔ ∃ ts, x = .ok ts ∧ r = (frags ++ ts, rest) := by
  cases x <;> simp [accum, eq_comm]

theorem accum_nil {ρ : Type} (rest : ρ) (x : E TS) : accum [] rest x = x >>= fun t => pure (t, rest) := by
  cases x <;> rfl

/-- where the loop of a level stops: at the end of the list, or (nested level) at the first member that is not its own -/
def endOk (lvl : FieldCtx) (rest : List FieldContainer) : Prop :=
  match lvl with
  | none => rest = []
  | some (cp, _, d) => ∃ pfx, cp.getStr (some d) = .ok pfx ∧ (rest = [] ∨ ∃ fc rs, rest = fc :: rs ∧ pathMatches fc.path pfx = false)

theorem structInitLoop_end {lvl : FieldCtx} {rest : List FieldContainer} (hend : endOk lvl rest) {fuel : Nat} {named : Bool}
    {ctx : ImplContext} {hint : TypeHint} {frags : TS} {idx : Nat} :
    structInitLoop (fuel + 1) rest named ctx lvl hint frags idx = accum frags rest (.ok []) := by
  cases rest with
  | nil => simp [structInitLoop, accum]
  | cons fc rs =>
    cases lvl with
    | none => cases hend
    | some l =>
      obtain ⟨pfx, hpfx, h | ⟨_, _, h, hm⟩⟩ := hend
      · cases h
      · cases h
        unfold structInitLoop
        simp [levelBreak, hpfx, hm, bind, Except.bind, pure, Except.pure, accum]

/-- `fc` holds member `f`, and `f` sits exactly at the level being rendered: not flattened at the top level, the last
    segment of its child path inside a nested struct -/
def LeafAt (ctx : ImplContext) (lvl : FieldCtx) (fc : FieldContainer) (f : Field) : Prop :=
  fc.fieldData = .field f ∧
  match lvl with
  | none => f.attrs.child ctx.ty = none
  | some (cp, _, d) => ∃ pfx ca, cp.getStr (some d) = .ok pfx ∧ fc.path = pfx ∧ f.attrs.child ctx.ty = some ca ∧ ca.childPath.strs.length = d + 1

theorem pathMatches_self (s : String) : pathMatches s s = true := by
  simp [pathMatches]

/-- `S`, the specification of the rest of the level, is abstract: `flatLines`, `segmentsSpec`, `NodeList.spec` all use it -/
theorem structInitLoop_leaf_acc {ctx : ImplContext} {lvl : FieldCtx} {fc : FieldContainer} {f : Field}
    (hk : lvl = none ∨ ctx.kind.isFrom = false) (h : LeafAt ctx lvl fc f) {fuel : Nat}
    {rest rest' : List FieldContainer} {named : Bool} {hint : TypeHint} (S : Nat → E TS)
    (ih : ∀ frags idx, structInitLoop (fuel + 1) rest named ctx lvl hint frags idx = accum frags rest' (S idx))
    (frags : TS) (idx : Nat) :
    structInitLoop (fuel + 2) (fc :: rest) named ctx lvl hint frags idx =
      accum frags rest' (if fieldSkipped ctx f then S idx else do
        let l ← renderStructLine f ctx hint idx none
        let r ← S (idx + 1)
        pure (l ++ r)) := by
  obtain ⟨hfd, hlvl⟩ := h
  conv => lhs; unfold structInitLoop
  cases lvl with
  | none =>
    simp only [levelBreak, ok_bind, pure, Except.pure, Bool.false_eq_true, ↓reduceIte, hfd, hlvl, ih]
    split
    · rfl
    · exact accum_bind
  | some l =>
    obtain ⟨pfx, ca, hpfx, hpath, hca, hlen⟩ := hlvl
    -- the member is the deepest level of its own child path: `render_child_fragment` renders its line
    have hdeep : (l.2.2 < ca.childPath.strs.length - 1) = False := by simp [hlen]
    simp only [levelBreak, hpfx, hpath, pathMatches_self, ok_bind, pure, Except.pure, Bool.not_true, Bool.false_eq_true,
      ↓reduceIte, hfd, Option.map_some, hca, renderChildFragment, deeperThan, hdeep, decide_false, List.drop_one,
      List.tail_cons, childLineHint, hk.resolve_left nofun, bind_assoc, ih]
    split
    · rfl
    · exact accum_bind

/-- depth at which the nested struct opened from level `lvl` sits -/
def newDepthOf (lvl : FieldCtx) : Nat := match lvl with | none => 0 | some (_, _, d) => d + 1

@[simp] theorem newDepthOf_none : newDepthOf none = 0 := rfl
@[simp] theorem newDepthOf_some (cp : ChildPath) (crc : Option ChildRenderContext) (d : Nat) : newDepthOf (some (cp, crc, d)) = d + 1 := rfl

theorem nextDepth_lvl (lvl : FieldCtx) : nextDepth (lvl.map (·.2.2)) = newDepthOf lvl := by
  cases lvl <;> rfl

theorem structInitLoop_child_acc {ctx : ImplContext} {lvl : FieldCtx} {fc : FieldContainer} {f : Field} {ca : ChildAttr}
    (hb : levelBreak lvl fc.path = .ok false) (hfd : fc.fieldData = .field f) (hns : fieldSkipped ctx f = false)
    (hca : f.attrs.child ctx.ty = some ca) {fuel : Nat} {rest rest' rest'' : List FieldContainer} {named : Bool}
    {hint : TypeHint} {idx : Nat} {F S : E TS}
    (hF : renderChildFragment fuel ca.childPath (fc :: rest) ctx (lvl.map (·.2.2)) hint
      (fun _ => renderStructLine f ctx (childLineHint ctx ca hint) idx none) = accum [] rest' F)
    (ih : ∀ frags, structInitLoop fuel rest' named ctx lvl hint frags (idx + 1) = accum frags rest'' S) (frags : TS) :
    structInitLoop (fuel + 1) (fc :: rest) named ctx lvl hint frags idx =
      accum frags rest'' (do let t ← F; let r ← S; pure (t ++ r)) := by
  conv => lhs; unfold structInitLoop
  simp only [hb, ok_bind, Bool.false_eq_true, ↓reduceIte, hfd, hns, hca, hF, accum_nil, bind_assoc, pure_bind, ih]
  exact accum_bind

/-- what `render_child` makes of the lines `S` of a nested struct (`nr`: the deriving type has named fields) -/
def childFrag (ctx : ImplContext) (nr : Bool) (cp : ChildPath) (d : Nat) (cd : ChildRenderContext) (hint : TypeHint)
    (S : E TS) : E TS := do
  let childName ← (match cp.path[d]? with
    | some m => pure m.toTS
    | none => panicAt "expand.rs:render_child:child_path index")
  let lines ← S
  let g ← structGhostLines ctx (some (cp, some cd, d))
  let init ← wrapInit ctx cd.typeHint nr (lines ++ g ++ updateToks ctx)
  match nr, hint with
  | true, .struct | true, .unspecified => return childName ++ [colon] ++ exprPath cd.ty ++ init ++ [comma]
  | true, .tuple => return exprPath cd.ty ++ init ++ [comma]
  | false, .tuple | false, .unspecified => return exprPath cd.ty ++ init ++ [comma]
  | false, .struct => return childName ++ [colon] ++ exprPath cd.ty ++ init ++ [comma]
  | _, .unit => panicAt "expand.rs:render_child:unreachable(15)"

/-- `fuel + 3`: the nested struct's own loop runs three calls down (`render_child`, `struct_init_block_inner`, itself) -/
theorem renderChildFragment_into {ctx : ImplContext} {cp : ChildPath} {lvl : FieldCtx} {cpa : ChildParentsAttr}
    {key : String} {cd : ChildParentData} {nr : Bool} (hk : ctx.kind.cls = .into)
    (hcpa : ctx.input.attrs.childParentsAttr ctx.ty = some cpa) (hnr : ctx.input.namedFields = .ok nr)
    (hdeep : deeperThan (lvl.map (·.2.2)) (cp.strs.length - 1) = true)
    (hkey : cp.getStr (some (newDepthOf lvl)) = .ok key)
    (hfind : cpa.childParents.find? (fun cd => cd.fieldPathStr == key) = some cd)
    {fuel : Nat} {fields rest : List FieldContainer} {S : E TS} (hint : TypeHint) {line : Unit → E TS}
    (h : structInitLoop fuel fields nr ctx (some (cp, some { ty := cd.ty, typeHint := cd.typeHint }, newDepthOf lvl))
      cd.typeHint [] 0 = accum [] rest S) :
    renderChildFragment (fuel + 3) cp fields ctx (lvl.map (·.2.2)) hint line =
      accum [] rest (childFrag ctx nr cp (newDepthOf lvl) { ty := cd.ty, typeHint := cd.typeHint } hint S) := by
  simp only [renderChildFragment, hdeep, ↓reduceIte, hk, hcpa, nextDepth_lvl, hkey, hfind, hnr, ok_bind]
  unfold renderChild structInitBlockInner childFrag
  simp only [h, hnr, ok_bind, accum_nil, bind_assoc, pure_bind]
  -- both sides run the same four steps; they differ in where the cursor is attached to the result
  refine bind_congr fun childName => bind_congr fun lines => bind_congr fun g => bind_congr fun init => ?_
  cases nr <;> cases hint <;> rfl

theorem renderChildFragment_existing {ctx : ImplContext} {cp : ChildPath} {lvl : FieldCtx} {cpa : ChildParentsAttr}
    {key : String} {cd : ChildParentData} {nr : Bool} (hk : ctx.kind.cls = .existing)
    (hcpa : ctx.input.attrs.childParentsAttr ctx.ty = some cpa) (hnr : ctx.input.namedFields = .ok nr)
    (hdeep : deeperThan (lvl.map (·.2.2)) (cp.strs.length - 1) = true)
    (hkey : cp.getStr (some (newDepthOf lvl)) = .ok key)
    (hfind : cpa.childParents.find? (fun cd => cd.fieldPathStr == key) = some cd)
    {fuel : Nat} {fields rest : List FieldContainer} {S : E TS} (hint : TypeHint) {line : Unit → E TS}
    (h : structInitLoop fuel fields nr ctx (some (cp, some { ty := cd.ty, typeHint := cd.typeHint }, newDepthOf lvl))
      cd.typeHint [] 0 = accum [] rest S) :
    renderChildFragment (fuel + 3) cp fields ctx (lvl.map (·.2.2)) hint line = accum [] rest (do
      let lines ← S
      let g ← structGhostLines ctx (some (cp, some { ty := cd.ty, typeHint := cd.typeHint }, newDepthOf lvl))
      wrapInit ctx cd.typeHint nr (lines ++ g ++ updateToks ctx)) := by
  simp only [renderChildFragment, hdeep, ↓reduceIte, hk, nextDepth_lvl, hnr, ok_bind]
  unfold renderExistingChild structInitBlockInner
  simp only [hkey, ok_bind, hcpa, hfind, h, accum_nil, bind_assoc, pure_bind, Option.bind_some, Option.map_some]

end O2o
