/-
Block-level lemmas: the loops of the expander (`foldlM` with append, the cursor loop of
`struct_init_block_inner`) equal "render each member, concatenate in order".
-/
import O2oModel.Lemmas.Descent
namespace O2o

theorem enum_variant_fold (vs : List Variant) (ctx : ImplContext) (acc : TS) :
    vs.foldlM (enumArmStep ctx) acc
      = (do return acc ++ (← (vs.filter (variantContributes ctx)).mapM (renderEnumLine · ctx)).flatten) :=
  List.foldlM_filter.symm.trans (foldlM_append_eq_mapM _ (renderEnumLine · ctx) acc)

/-- `enum_init_block` = one arm per contributing variant **in declaration order**, then the `#[ghosts]` arms of the
    instruction selected for this counterpart and kind, then the default arm; wrapped in braces -/
theorem enumInitBlock_eq (input : Enum) (ctx : ImplContext) :
    enumInitBlock input ctx = (do
      let arms ← (input.variants.filter (variantContributes ctx)).mapM (renderEnumLine · ctx)
      let ghostArms ← (enumGhostData input ctx).mapM (renderEnumGhostLine · ctx)
      return [brace (arms.flatten ++ ghostArms.flatten ++ defaultArm input ctx)]) := by
  unfold enumInitBlock
  simp only [enum_variant_fold, foldlM_append_eq_mapM, bind_assoc, pure_bind, List.nil_append]

/-- specification of a flat struct body: one line per contributing member, in declaration order, the running
    position `idx` counting only contributing members -/
def flatLines (ctx : ImplContext) (hint : TypeHint) : List Field → Nat → E TS
  | [], _ => .ok []
  | f :: fs, idx =>
    if fieldSkipped ctx f then flatLines ctx hint fs idx
    else do
      let l ← renderStructLine f ctx hint idx none
      let r ← flatLines ctx hint fs (idx + 1)
      return l ++ r

def flatContainers (l : List (Nat × String × Field)) : List FieldContainer :=
  l.map fun t => { grIdx := t.1, path := t.2.1, fieldData := .field t.2.2 }

/-- a run of members that sit exactly at the level being rendered, up to where the level ends: one line each, in order
    (`mk t` holds member `fld t`; at the top level for every kind, inside a nested struct for Into / IntoExisting) -/
theorem loop_leaf_block {α : Type} {ctx : ImplContext} {lvl : FieldCtx} (hk : lvl = none ∨ ctx.kind.isFrom = false)
    (mk : α → FieldContainer) (fld : α → Field) (named : Bool) (hint : TypeHint) {rest : List FieldContainer}
    (hend : endOk lvl rest) :
    ∀ (l : List α) (fuel : Nat) (frags : TS) (idx : Nat),
      l.length < fuel → (∀ t ∈ l, LeafAt ctx lvl (mk t) (fld t)) →
      structInitLoop fuel (l.map mk ++ rest) named ctx lvl hint frags idx =
        accum frags rest (flatLines ctx hint (l.map fld) idx)
  | [], fuel + 1, frags, idx, _, _ => structInitLoop_end hend
  | t :: l, fuel + 2, frags, idx, hf, hl =>
    structInitLoop_leaf_acc hk (hl t List.mem_cons_self) (flatLines ctx hint (l.map fld))
      (fun frags idx => loop_leaf_block hk mk fld named hint hend l (fuel + 1) frags idx (by simpa using hf)
        (fun t' ht => hl t' (List.mem_cons_of_mem _ ht))) frags idx

end O2o
