/-
C08 — trait-instruction params (vars, ..update, return, attributes) act as documented.
-/
import O2oModel.Props.C17
import O2oModel.Props.C01
namespace O2o
open Gen

def implSkeletons : List (List Tm) := skelSpecs.map (·.tmpl)

/-- the fn body group of an impl skeleton: last brace group inside the impl's brace group -/
def implBody : List Tm → List Tm
  | [.g .brace b] => b
  | _ :: rest => implBody rest
  | [] => []

def attrBeforeFn : List Tm → Bool
  | .h "attr" :: .t (.ident "fn") :: _ => true
  | _ :: rest => attrBeforeFn rest
  | [] => false

def fnBody : List Tm → List Tm
  | [.g .brace b] => b
  | _ :: rest => fnBody rest
  | [] => []

def countHole (n : String) (ts : List Tm) : Nat := (Tm.holesList ts).count n

/-- C08-5: in each of the six regenerated skeletons `impl_attribute(..)` is the first token of the item (outer
    attribute of the impl), `attribute(..)` immediately precedes `fn`, `inner_attribute(..)` is the first token inside
    the fn body; each occurs exactly once. -/
theorem C08_attr_positions :
    implSkeletons.all (fun sk =>
      sk.head? == some (.h "impl_attr") && attrBeforeFn (implBody sk) && (fnBody (implBody sk)).head? == some (.h "inner_attr")
      && countHole "impl_attr" sk == 1 && countHole "attr" sk == 1 && countHole "inner_attr" sk == 1) = true := by decide +kernel

/-- After the type `A` and the `|`, the parser is the parameter loop on what follows. Most of the work of evaluating
    it on `A | …` is here (`A` is compared with every keyword of the back-end, and the elaborator is slow on string
    literals): `C08_attr_wrapping` rewrites with this once and evaluates only the loop, three times. -/
theorem parseTraitAttrCore_bar (b : Back) (rest : TS) :
    parseTraitAttrCore b { toks := Tok.ident "A" :: .punct '|' false :: rest } =
      parseTraitParamsLoop b (rest.length + 2)
        { ty := .ofPath { leading := false, segs := [{ ident := "A", args := none }] }, errTy := none, typeHint := .unspecified }
        { toks := rest } := by
  cases b <;> rfl

/-- the attribute parameters are spliced as `#[…]`, `#[…]`, `#![…]` — checked on the parser's constructors -/
theorem C08_attr_wrapping (b : Back) (x : TS) :
    (parse2 (parseTraitAttrCore b) ([Tok.ident "A", .punct '|' false, .ident "attribute", .group .paren x])).map (·.fnAttr) = .ok (some [Tok.punct '#' false, .group .bracket x]) ∧
    (parse2 (parseTraitAttrCore b) ([Tok.ident "A", .punct '|' false, .ident "impl_attribute", .group .paren x])).map (·.implAttr) = .ok (some [Tok.punct '#' false, .group .bracket x]) ∧
    (parse2 (parseTraitAttrCore b) ([Tok.ident "A", .punct '|' false, .ident "inner_attribute", .group .paren x])).map (·.innerAttr) = .ok (some [Tok.punct '#' false, .punct '!' false, .group .bracket x]) := by
  simp only [parse2, parseTraitAttrCore_bar]
  exact ⟨rfl, rfl, rfl⟩

/-- C08 (on every impl): every impl context produced for an instruction carries that instruction's parameters -/
theorem C08_on_every_impl (input : DataType) (c : ImplContext) (h : c ∈ implContexts input) :
    ∃ a ∈ input.attrs.attrs, c.structAttr = a.core ∧ c.fallible = a.fallible ∧ a.appl.get c.kind = true := by
  obtain ⟨_, a, ha, hcore⟩ := mem_implContexts h
  simp only [DataTypeAttrs.iterForKind, List.mem_filter, Bool.and_eq_true, beq_iff_eq] at ha
  exact ⟨a, ha.1, hcore.symm, ha.2.1.symm, ha.2.2⟩

/-- C08-2 (vars, syntactic part): the `let` statements are emitted one per `vars(..)` entry, in declaration order -/
theorem C08_vars_order (ctx : ImplContext) (ds : List InitData) (h : ctx.structAttr.initData = some ds) :
    structPreInit ctx = some (ds.flatMap fun x =>
      [Tok.ident "let", .ident x.ident, .punct '=' false] ++ quoteAction x.action none ctx ++ [.punct ';' false]) := by
  simp [structPreInit, h, skel, tmpl_struct_pre_init, Tm.instList, Tm.inst, List.getD]

/-- vars come before the result is built: every body that builds a result (both dialects of (try_)into included:
    the plain one and the one that starts from `Default::default()`) has `pre_init` exactly once, before `init` -/
theorem C08_vars_before_init :
    ([tmpl_quote_from_trait.getD 0 [], tmpl_quote_try_from_trait.getD 0 [],
      tmpl_quote_into_trait.getD 0 [], tmpl_quote_into_trait.getD 1 [],
      tmpl_quote_try_into_trait.getD 0 [], tmpl_quote_try_into_trait.getD 1 [],
      tmpl_quote_into_existing_trait.getD 0 [], tmpl_quote_try_into_existing_trait.getD 0 []].all fun sk =>
        let hs := Tm.holesList sk
        hs.idxOf "pre_init" < hs.idxOf "init" && hs.count "pre_init" == 1 && hs.count "init" == 1) = true := by decide +kernel

/-- C08-4 (`return expr`): the quick return replaces the whole generated body; for into_existing it is assigned to
    the existing value -/
theorem C08_return (ctx : ImplContext) (qr : TS) (h : ctx.structAttr.quickReturn = some qr) :
    mainCodeBlock ctx = .ok (if ctx.kind.isIntoExisting
      then [Tok.punct '*' false, .ident "other", .punct '=' false] ++ quoteAction qr none ctx ++ [.punct ';' false]
      else quoteAction qr none ctx) := by
  simp only [mainCodeBlock, h, quickReturnBlock]
  split <;> simp [skel, tmpl_main_code_block, Tm.instList, Tm.inst, List.getD]

/-- the fallible variant behaves the same (no `Ok(..)` is added around a quick return — documented behaviour) -/
theorem C08_return_fallible (ctx : ImplContext) (qr : TS) (h : ctx.structAttr.quickReturn = some qr) :
    mainCodeBlockOk ctx = mainCodeBlock ctx := by
  simp only [mainCodeBlockOk, mainCodeBlock, h, quickReturnBlock]
  split <;> simp [skel, tmpl_main_code_block, tmpl_main_code_block_ok, Tm.instList, Tm.inst, List.getD]

/-! ### parameter grammar: duplicates are rejected with a diagnostic naming the parameter -/

theorem C08_duplicate_param (b : Back) :
    (parse2 (parseTraitAttrCore b) [Tok.ident "A", .punct '|' false, .ident "vars", .group .paren [.ident "x", .punct ':' false, .group .brace [.lit "1"]],
        .punct ',' false, .ident "vars", .group .paren [.ident "y", .punct ':' false, .group .brace [.lit "2"]]]).toOption.isNone = true := by
  cases b <;> decide +kernel

/-- C08-3 (`..expr`, syntactic part): in a struct body the update expression is the *last* fragment, after every member
    line and every ghost line — so it can only supply the members no fragment provides (any number of members) -/
theorem C08_update_last (ctx : ImplContext) (named : Bool) (l : List (Nat × String × Field)) (fuel : Nat)
    (out : TS) (rest : List FieldContainer) (u : TS)
    (hf : l.length + 1 < fuel) (hc : ∀ t ∈ l, t.2.2.attrs.child ctx.ty = none) (hu : ctx.structAttr.update = some u)
    (h : structInitBlockInner fuel (flatContainers l) named ctx none = .ok (out, rest)) :
    ∃ body, wrapInit ctx ctx.structAttr.typeHint named (body ++ [Tok.punct '.' true, Tok.punct '.' false] ++ quoteAction u none ctx) = .ok out := by
  obtain ⟨ls, g, _, _, hw, _⟩ := C01_flat_body ctx named l fuel out rest hf hc h
  refine ⟨ls ++ g, ?_⟩
  rw [← hw]
  simp [updateToks, hu, j, p, List.append_assoc]

/-- without `..expr` nothing is appended -/
theorem C08_no_update (ctx : ImplContext) (hu : ctx.structAttr.update = none) : updateToks ctx = [] := by
  simp [updateToks, hu]

/-- C08-4 (`return expr` stands for the *whole* body): with a quick return no call for a parameterless `#[parent]` member
    is generated, in any kind — so the body is the returned expression alone, in the plain dialect (fix d00ee70: the
    calls used to follow the returned expression) -/
theorem C08_return_no_parent_calls (input : DataType) (ctx : ImplContext) (qr : TS) (h : ctx.structAttr.quickReturn = some qr) :
    postInitOf input ctx = .ok none := by
  simp [postInitOf, h, pure, Except.pure]

end O2o
