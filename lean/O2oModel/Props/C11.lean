/-
C11 — generics, lifetimes and where-clauses are carried so the impl type-checks.
What a theorem can carry is the construction of the header; "type-checks" is rustc's judgement (modelled not verified).
-/
import O2oModel.Expand
import O2oModel.Lemmas.TokEq
namespace O2o

/-- the deriving type's own parameters, as the impl declares them (`ImplGenerics`: bounds kept, defaults left off) -/
abbrev declaredParams (gens : List GParam) : List IParam := implFormParams gens

/-- C11-1 (these_gens): the deriving type is followed by its own parameters *in argument form* — every one of them, in
    order, by its bare name (`'a`, `T`, `N`; lifetimes printed first as `TypeGenerics::to_tokens` does): no bound, no
    default, no `const` keyword is pasted after the type (fix 6f54c9a; the pinned tree printed the declaration form) -/
theorem C11_these_gens (input : DataType) (ctx : ImplContext) :
    (getQuoteTraitParams input ctx).theseGens = printGenerics (typeFormParams input.generics) := rfl

/-- every parameter printed after the type is exactly its name -/
theorem C11_these_gens_are_names (gens : List GParam) : ∀ p ∈ typeFormParams gens, p.full = p.name := by
  intro p hp
  simp only [typeFormParams, List.mem_map] at hp
  obtain ⟨g, _, rfl⟩ := hp
  rfl

/-- no generics ⇒ nothing is printed after the type, and nothing is declared on the impl unless a lifetime is added -/
theorem C11_no_generics : printGenerics [] = [] := rfl

/-- C11-2 (`r`): a by-reference conversion borrows with `&'o2o` exactly when there is a relevant lifetime to outlive
    (the deriving type's lifetimes for From-ref, the counterpart path's lifetimes for ref-Into), with plain `&` otherwise -/
theorem C11_r_forms (input : DataType) (ctx : ImplContext) :
    (getQuoteTraitParams input ctx).r =
      if ctx.kind.isRef then (if (refLifetimes input ctx).isEmpty then [Tok.punct '&' false] else [Tok.punct '&' false, .punct '\'' true, .ident "o2o"]) else [] := by
  rfl

/-- C11-2 (`'o2o`): when the borrow has lifetimes to outlive, a fresh `'o2o: l1 + … + ln` is declared last on the impl;
    otherwise nothing is added for it -/
theorem C11_o2o_declared (input : DataType) (ctx : ImplContext) (h : (refLifetimes input ctx).isEmpty = false) :
    (implParams input ctx).getLast? = some (o2oParam (refLifetimes input ctx)) ∧
    (o2oParam (refLifetimes input ctx)).full =
      [Tok.punct '\'' true, .ident "o2o", .punct ':' false] ++ joinPlus (refLifetimes input ctx) := by
  constructor
  · unfold implParams
    simp only [h, Bool.not_false, if_true]
    unfold pushParam
    split <;> simp
  · rfl

theorem C11_o2o_absent (input : DataType) (ctx : ImplContext) (h : (refLifetimes input ctx).isEmpty = true) :
    implParams input ctx = withMissingLifetimes (declaredParams input.generics) (thoseLifetimes ctx.structAttr.ty) := by
  unfold implParams
  simp [h, declaredParams, implFormParams]

/-- owned conversions never introduce `'o2o` -/
theorem C11_owned_no_o2o (input : DataType) (ctx : ImplContext) (h : ctx.kind.isRef = false) : refLifetimes input ctx = [] := by
  simp [refLifetimes, h]

/-- which lifetimes the borrow is tied to: the deriving type's for From<&T>, the counterpart path's for Into / IntoExisting on &Self -/
theorem C11_ref_lifetimes (input : DataType) (ctx : ImplContext) (h : ctx.kind.isRef = true) :
    refLifetimes input ctx = if ctx.kind.isFrom then theseLifetimes input.generics else thoseLifetimes ctx.structAttr.ty := by
  simp [refLifetimes, h]

/-- C11-4 (where): the where-clause attached is `where` + the clause dedicated to (else defaulting for) this counterpart -/
theorem C11_where (input : DataType) (ctx : ImplContext) (w : WhereAttr) (h : input.attrs.whereAttr ctx.ty = some w) :
    (getQuoteTraitParams input ctx).whereClause = [Tok.ident "where"] ++ w.whereClause := by
  unfold getQuoteTraitParams
  simp [h]

theorem C11_no_where (input : DataType) (ctx : ImplContext) (h : input.attrs.whereAttr ctx.ty = none) :
    (getQuoteTraitParams input ctx).whereClause = [] := by
  unfold getQuoteTraitParams
  simp [h]

/-- C11-5 (counterpart split): a counterpart path is split into the path without the last segment's generic arguments
    and those arguments; printing both one after the other gives the path back -/
theorem C11_counterpart_split_noargs (pth : Path) (h : (pth.segs.getLast?.bind (·.args)) = none) :
    (TypePath.ofPath pth).path = pth.toTS ∧ (TypePath.ofPath pth).generics = none := by
  unfold TypePath.ofPath
  cases hl : pth.segs.getLast? with
  | none => simp
  | some last =>
    cases last with
    | mk ident args =>
      cases args with
      | none => simp
      | some g => simp [hl] at h

/-- what a declared parameter *is*, its trailing comma aside -/
def IParam.key (p : IParam) : Bool × TS × TS := (p.isLifetime, p.name, p.full)

theorem keys_pushParam (ps : List IParam) (x : IParam) : (pushParam ps x).map IParam.key = ps.map IParam.key ++ [x.key] := by
  unfold pushParam
  split
  next h => simp [List.reverse_eq_nil_iff.mp h]
  next last init h => simp [List.reverse_eq_cons_iff.mp h, IParam.key]

theorem pushParam_length (ps : List IParam) (x : IParam) : (pushParam ps x).length = ps.length + 1 := by
  simpa using congrArg List.length (keys_pushParam ps x)

/-- the lifetimes declared by a parameter list -/
def ltNames (ps : List IParam) : List TS := (ps.filter (·.isLifetime)).map (·.name)

theorem ltNames_eq (ps : List IParam) : ltNames ps = (ps.map IParam.key).filterMap (fun k => if k.1 then some k.2.1 else none) := by
  induction ps with
  | nil => rfl
  | cons p ps ih =>
    simp only [ltNames, List.filter_cons, List.map_cons, List.filterMap_cons, IParam.key] at *
    cases h : p.isLifetime <;> simp [ih]

theorem ltNames_pushParam {ps : List IParam} {x : IParam} (hx : x.isLifetime = true) : ltNames (pushParam ps x) = ltNames ps ++ [x.name] := by
  rw [ltNames_eq, ltNames_eq, keys_pushParam]
  simp [IParam.key, hx]

/-- the test of the `missing_lt` loop -/
theorem missing_iff (ps : List IParam) (lt : TS) :
    (ps.all fun prm => if prm.isLifetime then !(prm.name == lt) else true) = true ↔ lt ∉ ltNames ps := by
  simp only [ltNames, List.all_eq_true, List.mem_map, List.mem_filter]
  constructor
  · rintro h ⟨p, ⟨hp, hl⟩, rfl⟩
    simpa [hl] using h p hp
  · intro h p hp
    cases hl : p.isLifetime
    · rfl
    · simpa using fun e => h ⟨p, ⟨hp, hl⟩, e⟩

/-- one round of the `missing_lt` loop: a lifetime that is not declared yet is declared last -/
def missingStep (ps : List IParam) (lt : TS) : List IParam :=
  if lt ∈ ltNames ps then ps else pushParam ps { isLifetime := true, name := lt, full := lt, punct := false }

theorem withMissing_eq (ps : List IParam) (lts : List TS) : withMissingLifetimes ps lts = lts.foldl missingStep ps := by
  unfold withMissingLifetimes
  congr
  funext ps lt
  simp only [missingStep, missing_iff, ite_not]

theorem step_declares (ps : List IParam) (lt : TS) : lt ∈ ltNames (missingStep ps lt) := by
  unfold missingStep
  split
  · assumption
  · rw [ltNames_pushParam rfl]; simp

theorem nodup_pushParam {ps : List IParam} {x : IParam} (hx : x.isLifetime = true) (h : (ltNames ps).Nodup)
    (hn : x.name ∉ ltNames ps) : (ltNames (pushParam ps x)).Nodup := by
  rw [ltNames_pushParam hx]
  refine List.nodup_append.mpr ⟨h, by simp, fun a ha b hb e => ?_⟩
  rw [List.mem_singleton.mp hb] at e
  exact hn (e ▸ ha)

theorem withMissing_rec {motive : List IParam → Prop} (ps : List IParam) (lts : List TS) (h0 : motive ps)
    (hpush : ∀ ps' lt, motive ps' → lt ∉ ltNames ps' →
      motive (pushParam ps' { isLifetime := true, name := lt, full := lt, punct := false })) :
    motive (withMissingLifetimes ps lts) := by
  rw [withMissing_eq]
  refine List.foldlRecOn lts missingStep h0 fun ps' h lt _ => ?_
  unfold missingStep
  split
  · exact h
  next hn => exact hpush ps' lt h hn

/-- the type's own parameters are declared on the impl first and in order: the impl list extends them -/
theorem C11_declared_prefix_length (params0 : List IParam) (lts : List TS) :
    params0.length ≤ (withMissingLifetimes params0 lts).length :=
  withMissing_rec (motive := fun ps => params0.length ≤ ps.length) params0 lts (Nat.le_refl _) fun ps lt h _ => by
    rw [pushParam_length]
    exact Nat.le_succ_of_le h

/-- C11-3 (every lifetime of the counterpart is declared): after the `missing_lt` loop each lifetime argument of the
    counterpart path is among the lifetimes the impl declares — for any parameter list of the deriving type (lifetimes,
    type and const parameters in any order) and any list of counterpart lifetimes, repetitions included -/
theorem C11_every_counterpart_lifetime_declared (ps : List IParam) (lts : List TS) (lt : TS) (h : lt ∈ lts) :
    lt ∈ ltNames (withMissingLifetimes ps lts) := by
  obtain ⟨pre, post, rfl⟩ := List.append_of_mem h
  rw [withMissing_eq, List.foldl_append, List.foldl_cons, ← withMissing_eq]
  -- declared by its own round, kept by the rounds after it
  refine withMissing_rec (motive := (lt ∈ ltNames ·)) _ post (step_declares _ lt) fun ps' l h _ => ?_
  rw [ltNames_pushParam rfl]
  exact List.mem_append_left _ h

/-- C11-3 (… and none twice): if the deriving type declares no lifetime twice, neither does the impl — a lifetime the
    counterpart shares with the type, or names several times, is not declared again -/
theorem C11_no_lifetime_declared_twice (ps : List IParam) (lts : List TS) (h : (ltNames ps).Nodup) :
    (ltNames (withMissingLifetimes ps lts)).Nodup :=
  withMissing_rec (motive := fun ps' => (ltNames ps').Nodup) ps lts h fun _ _ h hn => nodup_pushParam rfl h hn

/-- the deriving type's own parameters stay first, in order and unchanged (only a separating comma may be added) -/
theorem C11_own_params_first (ps : List IParam) (lts : List TS) :
    ∃ extra, (withMissingLifetimes ps lts).map IParam.key = ps.map IParam.key ++ extra :=
  withMissing_rec (motive := fun ps' => ∃ extra, ps'.map IParam.key = ps.map IParam.key ++ extra) ps lts
    ⟨[], by simp⟩ fun ps' _ ⟨e, he⟩ _ => ⟨e ++ [_], by rw [keys_pushParam, he, List.append_assoc]⟩

/-- C11-3 on the impl header itself: every lifetime argument of the counterpart is declared by `impl<..>` -/
theorem C11_impl_declares_counterpart_lifetimes (input : DataType) (ctx : ImplContext) (lt : TS)
    (h : lt ∈ thoseLifetimes ctx.structAttr.ty) : lt ∈ ltNames (implParams input ctx) := by
  unfold implParams
  simp only
  have h1 := C11_every_counterpart_lifetime_declared (declaredParams input.generics) _ lt h
  split
  · rw [ltNames_pushParam rfl]; exact List.mem_append_left _ h1
  · exact h1

/-- … and, as long as the input itself does not use the reserved name `'o2o`, no lifetime twice -/
theorem C11_impl_declares_no_lifetime_twice (input : DataType) (ctx : ImplContext)
    (h : (ltNames (declaredParams input.generics)).Nodup)
    (hres : lifetimeTS "o2o" ∉ ltNames (withMissingLifetimes (declaredParams input.generics) (thoseLifetimes ctx.structAttr.ty))) :
    (ltNames (implParams input ctx)).Nodup := by
  unfold implParams
  simp only
  have h1 := C11_no_lifetime_declared_twice (declaredParams input.generics) (thoseLifetimes ctx.structAttr.ty) h
  split
  · exact nodup_pushParam rfl h1 hres
  · exact h1

/-- non-vacuity: `struct S<'a, T>` against `A<'b, 'a, 'b>` — `'b` is added once, `'a` not again -/
example : ltNames (withMissingLifetimes
      [{ isLifetime := true, name := lifetimeTS "a", full := lifetimeTS "a", punct := true }, { isLifetime := false, name := [], full := [Tok.ident "T"], punct := false }]
      [lifetimeTS "b", lifetimeTS "a", lifetimeTS "b"]) = [lifetimeTS "a", lifetimeTS "b"] := by decide +kernel

end O2o
