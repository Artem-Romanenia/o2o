/-
C14 — repeat / skip_repeat / stop_repeat equal writing the instructions out.
-/
import O2oModel.Expand
namespace O2o

/-- what writing a repeat out means for one member: append the instructions of the selected categories -/
def writeOutOne (self src : MemberAttrs) (rf : List Bool) : MemberAttrs :=
  { self with
    attrs := self.attrs ++ (if rf.getD 0 false then src.attrs else [])
    childAttrs := self.childAttrs ++ (if rf.getD 1 false then src.childAttrs else [])
    parentAttrs := self.parentAttrs ++ (if rf.getD 2 false then src.parentAttrs else [])
    ghostAttrs := self.ghostAttrs ++ (if rf.getD 3 false then src.ghostAttrs else [])
    typeHintAttrs := self.typeHintAttrs ++ (if rf.getD 4 false then src.typeHintAttrs else []) }

/-- C14 (one member): merging the carried `repeat` member into a later member is exactly writing the selected
    categories out after the member's own instructions; `skip_repeat` members are left alone -/
theorem C14_merge (self src : MemberAttrs) (r : MemberRepeatAttr) (h : src.repeat_ = some r) :
    self.merge src = if self.skipRepeat then self else writeOutOne self src r.repeatFor := by
  unfold MemberAttrs.merge writeOutOne
  cases hs : self.skipRepeat
  · simp only [Bool.false_eq_true, if_false, h]
    congr 1 <;> (split <;> simp)
  · simp

theorem C14_merge_no_repeat (self src : MemberAttrs) (h : src.repeat_ = none) : self.merge src = self := by
  unfold MemberAttrs.merge
  cases self.skipRepeat <;> simp [h]

/-- declarative reading of the threading for one struct / one variant payload: walk the members with the currently
    active repeat source (if any) -/
def writeOutFields : List Field → Option MemberAttrs → List Field
  | [], _ => []
  | f :: rest, active =>
    let active := if f.attrs.stopRepeat then none else active
    match f.attrs.repeat_ with
    | some _ => f :: writeOutFields rest (some f.attrs)
    | none =>
      match active with
      | some src => { f with attrs := f.attrs.merge src } :: writeOutFields rest active
      | none => f :: writeOutFields rest none

/-- the context a list of already-parsed fields leaves behind, and the list itself, as a pure function (the parsing
    of each member's own instructions is independent of the threading) -/
def threadFields : List Field → Context → Option (List Field × Context)
  | [], ctx => some ([], ctx)
  | field :: rest, ctx =>
    let ctx := if field.attrs.stopRepeat then { ctx with fieldAttrsToRepeat := none } else ctx
    match field.attrs.repeat_ with
    | some r =>
      if ctx.fieldAttrsToRepeat.isSome && !field.attrs.stopRepeat then none
      else (threadFields rest { ctx with fieldAttrsToRepeat := some (field.attrs, r.permeate) }).map fun (fs, c) => (field :: fs, c)
    | none =>
      match ctx.fieldAttrsToRepeat with
      | some (toRepeat, _) => (threadFields rest ctx).map fun (fs, c) => ({ field with attrs := field.attrs.merge toRepeat } :: fs, c)
      | none => (threadFields rest ctx).map fun (fs, c) => (field :: fs, c)

/-- the repeat source still active after a list of payload members (with its `permeate` flag) -/
def leftover : List Field → Option (MemberAttrs × Bool) → Option (MemberAttrs × Bool)
  | [], a => a
  | f :: rest, a =>
    let a := if f.attrs.stopRepeat then none else a
    match f.attrs.repeat_ with
    | some r => leftover rest (some (f.attrs, r.permeate))
    | none => leftover rest a

theorem thread_cons {x : Option (List Field × Context)} {g : Field} {out W : List Field} {ctx' C : Context}
    (h : (x.map fun (fs, c) => (g :: fs, c)) = some (out, ctx'))
    (ih : ∀ fs c, x = some (fs, c) → fs = W ∧ c = C) : out = g :: W ∧ ctx' = C := by
  cases x with
  | none => cases h
  | some p =>
    cases h
    obtain ⟨e1, e2⟩ := ih _ _ rfl
    exact ⟨by rw [e1], e2⟩

theorem threadFields_some (fs : List Field) (ctx : Context) (out : List Field) (ctx' : Context)
    (h : threadFields fs ctx = some (out, ctx')) :
    out = writeOutFields fs (ctx.fieldAttrsToRepeat.map (·.1)) ∧
      ctx' = { ctx with fieldAttrsToRepeat := leftover fs ctx.fieldAttrsToRepeat } := by
  induction fs generalizing ctx out ctx' with
  | nil => cases h; exact ⟨rfl, rfl⟩
  | cons f rest ih =>
    obtain ⟨v, a⟩ := ctx
    unfold threadFields at h
    unfold writeOutFields leftover
    -- `stop_repeat` clears the source before the member is looked at
    have hc : (if f.attrs.stopRepeat then { (⟨v, a⟩ : Context) with fieldAttrsToRepeat := none } else ⟨v, a⟩) =
        ⟨v, if f.attrs.stopRepeat then none else a⟩ := by
      split <;> rfl
    have ha : (if f.attrs.stopRepeat then none else a.map (·.1)) =
        (if f.attrs.stopRepeat then none else a).map (·.1) := by
      split <;> rfl
    simp only [hc, ha] at h ⊢
    generalize (if f.attrs.stopRepeat then none else a) = a1 at h ⊢
    cases hr : f.attrs.repeat_ with
    | some r =>
      simp only [hr] at h ⊢
      split at h
      · cases h
      · exact thread_cons h (ih _)
    | none =>
      simp only [hr] at h ⊢
      cases a1 with
      | none => exact thread_cons h (ih _)
      | some p => exact thread_cons h (ih _)

/-- C14-1 (fields): whenever the threading succeeds (no unterminated second `repeat`), its result is the written-out
    form — for every member sequence, every placement of repeat / skip_repeat / stop_repeat, including stop+repeat on
    one member and several consecutive blocks -/
theorem C14_fields (fs : List Field) (ctx : Context) (out : List Field) (ctx' : Context)
    (h : threadFields fs ctx = some (out, ctx')) :
    out = writeOutFields fs (ctx.fieldAttrsToRepeat.map (·.1)) :=
  (threadFields_some fs ctx out ctx' h).1

theorem threadFields_ctx (fs : List Field) (ctx : Context) (out : List Field) (ctx' : Context)
    (h : threadFields fs ctx = some (out, ctx')) :
    ctx' = { ctx with fieldAttrsToRepeat := leftover fs ctx.fieldAttrsToRepeat } :=
  (threadFields_some fs ctx out ctx' h).2

/-- trait-level repeat: the carried parameters are copied category by category (vars, update, quick return, default
    case), an instruction marked `skip_repeat` is left alone, and a parameter that would be overridden is an error -/
theorem C14_trait_merge_skip (self other : TraitAttrCore) (h : self.skipRepeat = true) : self.merge other = .ok self := by
  simp [TraitAttrCore.merge, h]

theorem C14_trait_merge_copy (self other : TraitAttrCore) (h : self.skipRepeat = false)
    (hr : other.repeat_ = some [true, true, true, true])
    (h0 : self.initData = none) (h1 : self.update = none) (h2 : self.quickReturn = none) (h3 : self.defaultCase = none) :
    self.merge other = .ok { self with initData := other.initData, update := other.update, quickReturn := other.quickReturn, defaultCase := other.defaultCase } := by
  simp [TraitAttrCore.merge, h, hr, h0, h1, h2, h3]

theorem C14_trait_merge_conflict (self other : TraitAttrCore) (h : self.skipRepeat = false) (r : List Bool)
    (hr : other.repeat_ = some r) (hv : r.getD 0 false = true) (h0 : self.initData.isSome = true) :
    self.merge other = .error (.o2o "Vars will be overriden. Did you forget to use 'skip_repeat'?") := by
  unfold TraitAttrCore.merge
  simp only [h, Bool.false_eq_true, if_false, hr]
  have : (r.getD 0 false && self.initData.isSome) = true := by rw [hv, h0]; rfl
  simp only [this, if_true]

/-- parsing of each member's own instructions, without any threading -/
def parseFields (b : Back) (bark : Bool) : List RawField → Nat → Except PErr (List Field)
  | [], _ => .ok []
  | n :: rest, i =>
    match Field.fromSyn b i n bark with
    | .error e => .error e
    | .ok f =>
      match parseFields b bark rest (i + 1) with
      | .error e => .error e
      | .ok fs => .ok (f :: fs)

theorem thread_acc (x : Option (List Field × Context)) (acc : List Field) (g : Field) :
    (match x with
      | some (out, c) => (Except.ok ((g :: acc).reverse ++ out, c) : Except PErr (List Field × Context))
      | none => .error (.o2o repeatNotTerminated)) =
    (match x.map (fun (fs, c) => (g :: fs, c)) with
      | some (out, c) => .ok (acc.reverse ++ out, c)
      | none => .error (.o2o repeatNotTerminated)) := by
  cases x with
  | none => rfl
  | some p => simp

/-- C14 (tie to `Field::multiple_from_syn`): when every member's own instructions parse, the code's loop is exactly
    "parse each member, then thread the repeat context over the parsed members" — so `C14_fields` describes what
    `multiple_from_syn` returns; an unterminated second `repeat` is the one diagnostic the threading can raise -/
theorem C14_multiple_from_syn (b : Back) (bark : Bool) (nodes : List RawField) (i : Nat) (ctx : Context) (acc fs : List Field)
    (h : parseFields b bark nodes i = .ok fs) :
    Field.multipleFromSyn b bark nodes i ctx acc =
      match threadFields fs ctx with
      | some (out, c) => .ok (acc.reverse ++ out, c)
      | none => .error (.o2o repeatNotTerminated) := by
  induction nodes generalizing i ctx acc fs with
  | nil =>
    cases h
    simp [Field.multipleFromSyn, threadFields]
  | cons n rest ih =>
    unfold parseFields at h
    split at h
    · cases h
    next f hf =>
      split at h
      · cases h
      next fs' hrest =>
        cases h
        unfold Field.multipleFromSyn threadFields
        -- every arm that goes on calls the loop on the rest, with the member pushed on the accumulator
        simp only [hf, bind, Except.bind, ih _ _ _ _ hrest, thread_acc]
        generalize (if f.attrs.stopRepeat then { ctx with fieldAttrsToRepeat := none } else ctx) = ctx1
        cases f.attrs.repeat_ with
        | some r =>
          simp only
          split <;> rfl
        | none =>
          cases ctx1.fieldAttrsToRepeat with
          | none => rfl
          | some p => rfl

/-- C14 (*table*, regenerated): the categories a member-level `repeat(..)` can name, and the parameter kinds a trait-level
    `repeat(..)` can name, are the documented ones, in the order the `repeat_for` vectors are indexed -/
theorem C14_repeat_categories :
    (Gen.memberRepeatTypes == ["map", "child", "parent", "ghost", "type_hint"]
     && Gen.traitRepeatTypes == ["vars", "update", "quick_return", "default_case"]) = true := by decide +kernel

/-- what a variant's end does to the active source: a plain repeat ends with its variant, a permeating one goes on -/
def endOfVariant (a : Option (MemberAttrs × Bool)) : Option (MemberAttrs × Bool) :=
  match a with
  | some (_, permeating) => if !permeating then none else a
  | none => none

/-- the context handling of `Variant::from_syn`, on parsed payloads -/
def threadPayloads : List (List Field) → Context → Option (List (List Field) × Context)
  | [], ctx => some ([], ctx)
  | fs :: rest, ctx =>
    match threadFields fs ctx with
    | none => none
    | some (out, ctx1) =>
      let ctx2 := match ctx1.fieldAttrsToRepeat with
        | some (_, permeating) => if !permeating then { ctx1 with fieldAttrsToRepeat := none } else ctx1
        | none => ctx1
      (threadPayloads rest ctx2).map fun (os, c) => (out :: os, c)

/-- declarative reading over a whole enum -/
def writeOutPayloads : List (List Field) → Option (MemberAttrs × Bool) → List (List Field)
  | [], _ => []
  | fs :: rest, a => writeOutFields fs (a.map (·.1)) :: writeOutPayloads rest (endOfVariant (leftover fs a))

/-- C14 (payload members of an enum's variants, plain and permeating repeat): whenever the threading over the variants
    succeeds, every variant's payload is the written-out form under the source that is active when the variant begins — a
    plain repeat ends with its variant, a `repeat(permeate())` one is carried on until `stop_repeat`; any number of
    variants, any placement of the instructions -/
theorem C14_enum_payloads (vs : List (List Field)) (ctx : Context) (outs : List (List Field)) (ctx' : Context)
    (h : threadPayloads vs ctx = some (outs, ctx')) :
    outs = writeOutPayloads vs ctx.fieldAttrsToRepeat := by
  induction vs generalizing ctx outs ctx' with
  | nil => cases h; rfl
  | cons fs rest ih =>
    unfold threadPayloads at h
    unfold writeOutPayloads
    cases ht : threadFields fs ctx with
    | none => simp [ht] at h
    | some p =>
      obtain ⟨out, ctx1⟩ := p
      obtain ⟨rfl, rfl⟩ := threadFields_some fs ctx out ctx1 ht
      simp only [ht, Option.map_eq_some_iff, Prod.mk.injEq] at h
      obtain ⟨⟨os, c⟩, hrec, rfl, _⟩ := h
      rw [ih _ _ _ hrec]
      congr 2
      cases hl : leftover fs ctx.fieldAttrsToRepeat with
      | none => rfl
      | some q =>
        obtain ⟨src, perm⟩ := q
        cases perm <;> rfl

/-- tie to `Variant::from_syn`: when the payload members' own instructions and the variant's own instructions parse, the
    variant's payload is the threaded one and the context it leaves is the one `threadPayloads` passes on -/
theorem C14_variant_from_syn (b : Back) (bark : Bool) (ctx : Context) (v : RawVariant) (fs : List Field) (attrs : MemberAttrs)
    (hf : parseFields b bark v.fields.fields 0 = .ok fs) (ha : getMemberAttrs b v.attrs none bark = .ok attrs) :
    Variant.fromSyn b ctx v bark =
      match threadFields fs ctx with
      | some (out, c) =>
        .ok ({ attrs := attrs, ident := v.name, fields := out, namedFields := v.fields.kind == .named, unit := v.fields.kind == .unit },
             match c.fieldAttrsToRepeat with
             | some (_, permeating) => if !permeating then { c with fieldAttrsToRepeat := none } else c
             | none => c)
      | none => .error (.o2o repeatNotTerminated) := by
  unfold Variant.fromSyn
  rw [C14_multiple_from_syn b bark v.fields.fields 0 ctx [] fs hf]
  cases threadFields fs ctx with
  | none => rfl
  | some p =>
    simp only [bind, Except.bind, ha]
    rfl

end O2o
