/-
C13 — #[o2o(...)] alternative syntaxes generate the same code as bare attributes.
The bare branch calls the instruction parser with (own_instr = false, bark), the `#[o2o(..)]` branch with
(own_instr = true, bark = true). The theorems show the flags cannot influence the instruction that is built for
any name that has a bare form.
-/
import O2oModel.Lemmas.Grouping
namespace O2o

/-- instructions with a bare form, as registered by `proc_macro_derive(o2o, attributes(..))` -/
def bareForms : List String := Gen.declaredAttrs.filter (· != "o2o")

/-- C13 (tables): for every instruction with a bare form, at type level and at member level, whatever `allow_unknown`
    says, the same match arm is selected in both spellings, or the arm is one of the error arms (misplaced / misnamed)
    in both spellings — which differ only in the `own` flag that selects the "To turn this message off…" suffix —
    or the name is no instruction at that level at all (ignored when bare, reported inside `o2o(..)`). -/
theorem C13_same_arm :
    bareForms.all (fun name => [true, false].all fun bark =>
      [Gen.typeArms, Gen.memberArms].all fun arms =>
        match findArm arms name false bark, findArm arms name true true with
        | some a, some a' =>
          a == a' ||
          -- names that are *not* instructions at this level: bare they may belong to another macro and are ignored
          -- (always for unknown names, under allow_unknown for misplaced ones); inside o2o(..) they are reported.
          (a.kind == .unrecognized && (match a'.kind with | .misplaced => true | .misnamed _ => true | .unrecognizedWithError => true | _ => false))
        | _, _ => false) = true := by decide +kernel

/-- names that are instructions at type level (their arm builds an instruction, not an error) -/
def typeInstrNames : List String := bareForms.filter fun n =>
  match findArm Gen.typeArms n true true with
  | some a => (match a.kind with | .map _ => true | .ghosts => true | .childParents => true | .whereClause => true | _ => false)
  | none => false

/-- .. and at member level; `as_type`, `repeat`, `skip_repeat`, `stop_repeat` and the `_owned` / `_ref` ghost names are not
    registered as attributes: they can only be written inside `#[o2o(..)]` and have no bare spelling to compare with -/
def memberInstrNames : List String := bareForms.filter fun n =>
  match findArm Gen.memberArms n true true with
  | some a => (match a.kind with
    | .map _ => true | .ghost => true | .ghosts => true | .child => true | .parent => true | .lit => true | .pat => true | .typeHint => true | _ => false)
  | none => false

def Gen.ArmKind.isError : Gen.ArmKind → Bool
  | .misplaced | .misnamed _ | .unrecognizedWithError => true
  | _ => false

theorem findArm_bare {arms : List Gen.Arm} (harms : arms ∈ [Gen.typeArms, Gen.memberArms]) {name : String} (hn : name ∈ bareForms)
    (bark : Bool) {a' : Gen.Arm} (h' : findArm arms name true true = some a') (hk : a'.kind.isError = false) :
    findArm arms name false bark = some a' := by
  have h := List.all_eq_true.mp (List.all_eq_true.mp (List.all_eq_true.mp C13_same_arm name hn) bark (by cases bark <;> simp)) arms harms
  cases hf : findArm arms name false bark with
  | none => simp [hf] at h
  | some a =>
    cases hkd : a'.kind <;> simp_all [Gen.ArmKind.isError]

/-- C13-1 (type level): for every real type-level instruction and every argument token list, the bare spelling and
    the `#[o2o(..)]` spelling hand the *same* parsed instruction (or the same parse error) to the rest of the derive -/
theorem C13_type_instr (b : Back) (name : String) (ts : TS) (bark : Bool) (h : name ∈ typeInstrNames) :
    parseDataTypeInstruction b name ts false bark = parseDataTypeInstruction b name ts true true := by
  obtain ⟨hn, h⟩ := List.mem_filter.mp h
  unfold parseDataTypeInstruction
  cases hf : findArm Gen.typeArms name true true with
  | none => simp [hf] at h
  | some arm =>
    rw [findArm_bare (by simp) hn bark hf (by cases hk : arm.kind <;> simp_all [Gen.ArmKind.isError])]
    -- only the diagnostic arms look at the `own` flag
    cases hk : arm.kind <;> simp_all

/-- C13-1 (member level) -/
theorem C13_member_instr (b : Back) (name : String) (ts : TS) (bark : Bool) (h : name ∈ memberInstrNames) :
    parseMemberInstruction b name ts false bark = parseMemberInstruction b name ts true true := by
  obtain ⟨hn, h⟩ := List.mem_filter.mp h
  unfold parseMemberInstruction
  cases hf : findArm Gen.memberArms name true true with
  | none => simp [hf] at h
  | some arm =>
    rw [findArm_bare (by simp) hn bark hf (by cases hk : arm.kind <;> simp_all [Gen.ArmKind.isError])]
    cases hk : arm.kind <;> simp_all

/-- the argument tokens are the same in both spellings: a bare `#[name(args)]` yields `args`, and inside
    `#[o2o(name(args))]` the element parser takes the content of the parenthesised group after the name -/
theorem C13_bare_tokens (b : Back) (path : TS) (ts : TS) : bareAttrTokens b ⟨path, .list .paren ts⟩ = .ok ts := by
  cases b <;> rfl

theorem C13_bare_tokens_path (b : Back) (path : TS) : bareAttrTokens b ⟨path, .path⟩ = .ok [] := by
  cases b <;> rfl

theorem isKeyword_of_syn2 (b : Back) (n : String) (h : isKeyword .syn2 n = false) : isKeyword b n = false := by
  cases b
  · simp only [isKeyword, keywords, List.contains_append, Bool.or_eq_false_iff] at h ⊢
    exact ⟨h.1, rfl⟩
  · exact h

/-- *table*: no attribute name the derive registers is a keyword, or `doc` -/
theorem declaredAttrs_plain : Gen.declaredAttrs.all (fun n => !isKeyword .syn2 n && n != "doc") = true := by decide +kernel

/-- stated for a selection `bareForms.filter q`, which is what `typeInstrNames` and `memberInstrNames` are -/
theorem bareForms_plain {n : String} {q : String → Bool} (h : n ∈ bareForms.filter q) :
    (∀ b, isKeyword b n = false) ∧ n ≠ "doc" ∧ n ≠ "o2o" := by
  obtain ⟨hd, ho⟩ := List.mem_filter.mp (List.mem_filter.mp h).1
  have := List.all_eq_true.mp declaredAttrs_plain n hd
  simp only [Bool.and_eq_true, Bool.not_eq_true', bne_iff_ne, ne_eq] at this ho
  exact ⟨fun b => isKeyword_of_syn2 b n this.1, this.2, ho⟩

theorem typeInstrNames_not_keyword : [Back.syn1, Back.syn2].all (fun b => typeInstrNames.all fun n => !isKeyword b n) = true := by
  simp only [List.all_eq_true]
  intro b _ n hn
  simp [(bareForms_plain hn).1 b]

theorem memberInstrNames_not_keyword : [Back.syn1, Back.syn2].all (fun b => memberInstrNames.all fun n => !isKeyword b n) = true := by
  simp only [List.all_eq_true]
  intro b _ n hn
  simp [(bareForms_plain hn).1 b]

theorem allResults_congr {α : Type} (f g : String → TS → Except PErr α) (items : List (String × Option TS))
    (h : ∀ e ∈ items, f e.1 (e.2.getD []) = g e.1 (e.2.getD [])) : allResults f items = allResults g items := by
  rw [allResults_eq_mapM, allResults_eq_mapM]
  exact mapM_congr_mem _ _ items h

/-- C13-2 (grouping, type level): a whole `#[o2o(i1(args1), i2, i3(args3), ..)]` list, of any length, parses to exactly
    the list of instructions that the separate bare attributes `#[i1(args1)] #[i2] #[i3(args3)] ..` parse to, one by one
    and in the same order (or to the error of the first element that fails) -/
theorem C13_grouping_type (b : Back) (bark : Bool) (items : List (String × Option TS)) (h : ∀ e ∈ items, e.1 ∈ typeInstrNames) :
    parse2 (parseTerminated (o2oElem b fun instr c => parseDataTypeInstruction b instr c true true)) (o2oTokens items)
      = allResults (fun instr c => parseDataTypeInstruction b instr c false bark) items := by
  rw [parse2_o2o_list b _ items fun e he => (bareForms_plain (h e he)).1 b]
  exact allResults_congr _ _ items fun e he => (C13_type_instr b e.1 _ bark (h e he)).symm

/-- C13-2 (grouping, member level) -/
theorem C13_grouping_member (b : Back) (bark : Bool) (items : List (String × Option TS)) (h : ∀ e ∈ items, e.1 ∈ memberInstrNames) :
    parse2 (parseTerminated (o2oElem b fun instr c => parseMemberInstruction b instr c true true)) (o2oTokens items)
      = allResults (fun instr c => parseMemberInstruction b instr c false bark) items := by
  rw [parse2_o2o_list b _ items fun e he => (bareForms_plain (h e he)).1 b]
  exact allResults_congr _ _ items fun e he => (C13_member_instr b e.1 _ bark (h e he)).symm

/-- non-vacuity: a three-element list with and without arguments -/
example : o2oTokens [("map", some [.ident "X"]), ("owned_into", some [.ident "Y"]), ("allow_unknown", none)]
    = [.ident "map", .group .paren [.ident "X"], p ',', .ident "owned_into", .group .paren [.ident "Y"], p ',', .ident "allow_unknown"] := rfl

/-- non-vacuity: the real instruction names -/
example : typeInstrNames.length = 27 ∧ memberInstrNames.length = 28 := by decide +kernel

end O2o
