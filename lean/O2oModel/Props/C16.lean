/-
C16 — expansion never panics.
Every partial operation of the Rust sources is inventoried by the translator (Generated.panicSites);
the model either carries it as an explicit `.panic site` outcome or the site is locally guarded.
-/
import O2oModel.Props.C15
import O2oModel.Lemmas.Lines
import O2oModel.Lemmas.Lookup
import O2oModel.Lemmas.NoPanic
import O2oModel.Lemmas.Members
namespace O2o

inductive Disposition
  /-- statically total (array indexed through an exhaustive `impl Index`) -/
  | total
  /-- a check in the same expression / statement excludes the failing case -/
  | guarded
  /-- carried by the model as `.error (.panic label)`: reachability is a statement about the model -/
  | modelled
  deriving DecidableEq, Repr

/-- every panic-capable site of attr.rs / ast.rs / validate.rs / expand.rs with what the model does about it -/
def siteTable : List (Gen.Site × Disposition × String) := [
  (⟨"attr.rs", "from", "unwrap(value . segments . last ())"⟩, .guarded, "syn::Path has at least one segment (library invariant)"),
  (⟨"attr.rs", "from", "unwrap(cl . segments . last_mut ())"⟩, .guarded, "syn::Path has at least one segment (library invariant)"),
  (⟨"attr.rs", "iter_for_kind", "index(x . applicable_to [kind])"⟩, .total, "[bool; 6] indexed through `impl Index<&Kind>`: every Kind maps to 0..5"),
  (⟨"attr.rs", "ghosts_attr", "index(x . applicable_to [kind])"⟩, .total, "[bool; 6] indexed through `impl Index<&Kind>`: every Kind maps to 0..5"),
  (⟨"attr.rs", "ghosts_attr", "unwrap(x . attr . container_ty . as_ref ())"⟩, .guarded, "`.is_some() &&` / `.is_none() ||` short-circuits before the unwrap"),
  (⟨"attr.rs", "ghosts_attr", "index(x . applicable_to [kind])"⟩, .total, "[bool; 6] indexed through `impl Index<&Kind>`: every Kind maps to 0..5"),
  (⟨"attr.rs", "where_attr", "unwrap(x . container_ty . as_ref ())"⟩, .guarded, "`.is_some() &&` / `.is_none() ||` short-circuits before the unwrap"),
  (⟨"attr.rs", "child_parents_attr", "unwrap(x . container_ty . as_ref ())"⟩, .guarded, "`.is_some() &&` / `.is_none() ||` short-circuits before the unwrap"),
  (⟨"attr.rs", "parse", "index(repeat_for [idx])"⟩, .guarded, "index comes from `position()` over an array of the same length"),
  (⟨"attr.rs", "iter_for_kind", "index(x . applicable_to [kind])"⟩, .total, "[bool; 6] indexed through `impl Index<&Kind>`: every Kind maps to 0..5"),
  (⟨"attr.rs", "child", "unwrap(x . container_ty . as_ref ())"⟩, .guarded, "`.is_some() &&` / `.is_none() ||` short-circuits before the unwrap"),
  (⟨"attr.rs", "ghost", "index(x . applicable_to [kind])"⟩, .total, "[bool; 6] indexed through `impl Index<&Kind>`: every Kind maps to 0..5"),
  (⟨"attr.rs", "ghost", "unwrap(x . attr . container_ty . as_ref ())"⟩, .guarded, "`.is_some() &&` / `.is_none() ||` short-circuits before the unwrap"),
  (⟨"attr.rs", "ghost", "index(x . applicable_to [kind])"⟩, .total, "[bool; 6] indexed through `impl Index<&Kind>`: every Kind maps to 0..5"),
  (⟨"attr.rs", "lit", "unwrap(x . container_ty . as_ref ())"⟩, .guarded, "`.is_some() &&` / `.is_none() ||` short-circuits before the unwrap"),
  (⟨"attr.rs", "pat", "unwrap(x . container_ty . as_ref ())"⟩, .guarded, "`.is_some() &&` / `.is_none() ||` short-circuits before the unwrap"),
  (⟨"attr.rs", "type_hint", "unwrap(x . container_ty . as_ref ())"⟩, .guarded, "`.is_some() &&` / `.is_none() ||` short-circuits before the unwrap"),
  (⟨"attr.rs", "has_parent_attr", "unwrap(x . container_ty . as_ref ())"⟩, .guarded, "`.is_some() &&` / `.is_none() ||` short-circuits before the unwrap"),
  (⟨"attr.rs", "has_parameterless_parent_attr", "unwrap(x . container_ty . as_ref ())"⟩, .guarded, "`.is_some() &&` / `.is_none() ||` short-circuits before the unwrap"),
  (⟨"attr.rs", "parameterized_parent_attr", "unwrap(x . container_ty . as_ref ())"⟩, .guarded, "`.is_some() &&` / `.is_none() ||` short-circuits before the unwrap"),
  (⟨"attr.rs", "field_attr", "unwrap(x . attr . container_ty . as_ref ())"⟩, .guarded, "`.is_some() &&` / `.is_none() ||` short-circuits before the unwrap"),
  (⟨"attr.rs", "field_attr_core", "unwrap(x . container_ty . as_ref ())"⟩, .guarded, "`.is_some() &&` / `.is_none() ||` short-circuits before the unwrap"),
  (⟨"attr.rs", "merge", "index(repeat . repeat_for [& MemberAttrType :: Attr])"⟩, .total, "fixed array indexed through an `impl Index<&Enum>`"),
  (⟨"attr.rs", "merge", "index(repeat . repeat_for [& MemberAttrType :: Child])"⟩, .total, "fixed array indexed through an `impl Index<&Enum>`"),
  (⟨"attr.rs", "merge", "index(repeat . repeat_for [& MemberAttrType :: Parent])"⟩, .total, "fixed array indexed through an `impl Index<&Enum>`"),
  (⟨"attr.rs", "merge", "index(repeat . repeat_for [& MemberAttrType :: Ghost])"⟩, .total, "fixed array indexed through an `impl Index<&Enum>`"),
  (⟨"attr.rs", "merge", "index(repeat . repeat_for [& MemberAttrType :: TypeHint])"⟩, .total, "fixed array indexed through an `impl Index<&Enum>`"),
  (⟨"attr.rs", "parse", "index(repeat [idx])"⟩, .guarded, "index comes from `position()` over an array of the same length"),
  (⟨"attr.rs", "merge", "index(attr_to_repeat [& TraitAttrType :: Vars])"⟩, .total, "fixed array indexed through an `impl Index<&Enum>`"),
  (⟨"attr.rs", "merge", "index(attr_to_repeat [& TraitAttrType :: Update])"⟩, .total, "fixed array indexed through an `impl Index<&Enum>`"),
  (⟨"attr.rs", "merge", "index(attr_to_repeat [& TraitAttrType :: QuickReturn])"⟩, .total, "fixed array indexed through an `impl Index<&Enum>`"),
  (⟨"attr.rs", "merge", "index(attr_to_repeat [& TraitAttrType :: DefaultCase])"⟩, .total, "fixed array indexed through an `impl Index<&Enum>`"),
  (⟨"attr.rs", "get_ident", "unreachable!(\"16\")"⟩, .modelled, "attr.rs:GhostIdent::get_ident:unreachable(16)"),
  (⟨"attr.rs", "get_child_path_str", "index(self . child_path_str [depth])"⟩, .modelled, "attr.rs:ChildPath::get_child_path_str:index"),
  (⟨"attr.rs", "get_for_kind", "index(x . applicable_to [kind])"⟩, .total, "[bool; 6] indexed through `impl Index<&Kind>`: every Kind maps to 0..5"),
  (⟨"attr.rs", "try_parse_container_ident", "unwrap(input . parse :: < Token ! [|] > ())"⟩, .guarded, "preceded by a successful `peek` of the same token"),
  (⟨"attr.rs", "try_parse_optional_ident", "unwrap(input . parse :: < Token ! [,] > ())"⟩, .guarded, "preceded by a successful `peek` of the same token"),
  (⟨"attr.rs", "try_parse_optional_ident", "unwrap(fork . parse :: < Member > ())"⟩, .guarded, "preceded by a successful `peek` of the same token"),
  (⟨"ast.rs", "named_fields", "panic!(\"Method 'named_fields' is not supposed to be calle)"⟩, .modelled, "ast.rs:DataType::named_fields:panic"),
  (⟨"validate.rs", "validate", "index(x . applicable_to [& Kind :: OwnedInto])"⟩, .total, "[bool; 6] indexed through `impl Index<&Kind>`: every Kind maps to 0..5"),
  (⟨"validate.rs", "validate", "index(x . applicable_to [& Kind :: RefInto])"⟩, .total, "[bool; 6] indexed through `impl Index<&Kind>`: every Kind maps to 0..5"),
  (⟨"validate.rs", "validate", "index(x . applicable_to [& Kind :: OwnedInto])"⟩, .total, "[bool; 6] indexed through `impl Index<&Kind>`: every Kind maps to 0..5"),
  (⟨"validate.rs", "validate", "index(x . applicable_to [& Kind :: RefInto])"⟩, .total, "[bool; 6] indexed through `impl Index<&Kind>`: every Kind maps to 0..5"),
  (⟨"validate.rs", "validate", "index(x . applicable_to [& Kind :: OwnedInto])"⟩, .total, "[bool; 6] indexed through `impl Index<&Kind>`: every Kind maps to 0..5"),
  (⟨"validate.rs", "validate", "index(x . applicable_to [& Kind :: RefInto])"⟩, .total, "[bool; 6] indexed through `impl Index<&Kind>`: every Kind maps to 0..5"),
  (⟨"validate.rs", "validate_error_instrs", "unreachable!(\"13\")"⟩, .guarded, "error_instrs only ever receives Misplaced / Misnamed / UnrecognizedWithError (the model's ErrInstr has exactly these)"),
  (⟨"validate.rs", "validate_member_error_instrs", "unreachable!(\"14\")"⟩, .guarded, "error_instrs only ever receives Misplaced / Misnamed / UnrecognizedWithError (the model's ErrInstr has exactly these)"),
  (⟨"validate.rs", "validate_struct_attrs", "unwrap(attr . err_ty . as_ref ())"⟩, .guarded, "`attr.err_ty.is_some()` checked in the same condition"),
  (⟨"validate.rs", "validate_ghost_attrs", "index(x . applicable_to [kind])"⟩, .total, "[bool; 6] indexed through `impl Index<&Kind>`: every Kind maps to 0..5"),
  (⟨"validate.rs", "validate_ghost_attrs", "index(x . applicable_to [kind])"⟩, .total, "[bool; 6] indexed through `impl Index<&Kind>`: every Kind maps to 0..5"),
  (⟨"validate.rs", "validate_ghost_attrs", "unwrap(ghost_attr . attr . container_ty . as_ref ())"⟩, .guarded, "`.is_some() &&` / `.is_none() ||` short-circuits before the unwrap"),
  (⟨"validate.rs", "validate_parent_member_type", "unwrap(p . container_ty . as_ref ())"⟩, .guarded, "`p.container_ty.is_none() ||` comes first in the same condition"),
  (⟨"validate.rs", "validate_parent_attrs", "unwrap(p . container_ty . as_ref ())"⟩, .guarded, "`.is_some() &&` / `.is_none() ||` short-circuits before the unwrap"),
  (⟨"validate.rs", "validate_parent_attrs", "unwrap(p . container_ty . as_ref ())"⟩, .guarded, "`.is_some() &&` / `.is_none() ||` short-circuits before the unwrap"),
  (⟨"expand.rs", "struct_init_block", "unwrap(group_paths . get (& path))"⟩, .guarded, "`contains_key` checked first"),
  (⟨"expand.rs", "struct_init_block", "unwrap(a . child_fields . as_ref ())"⟩, .guarded, "`parameterized_parent_attr` only returns attrs with `child_fields.is_some()`"),
  (⟨"expand.rs", "struct_init_block_inner", "unwrap(g . child_path . as_ref ())"⟩, .modelled, "expand.rs:struct_init_block_inner:ghost child_path unwrap"),
  (⟨"expand.rs", "struct_init_block_inner", "unreachable!(\"2\")"⟩, .modelled, "expand.rs:struct_init_block_inner:unreachable(2)"),
  (⟨"expand.rs", "variant_destruct_block", "unreachable!(\"3\")"⟩, .guarded, "`attr` is `Some` in the else branch of `attr.is_none()`"),
  (⟨"expand.rs", "variant_destruct_block", "unreachable!(\"4\")"⟩, .modelled, "expand.rs:variant_destruct_block:unreachable(4)"),
  (⟨"expand.rs", "render_child_fragment", "unwrap(depth)"⟩, .guarded, "`depth.is_none() ||` short-circuits"),
  (⟨"expand.rs", "render_child_fragment", "unwrap(ctx . input . get_attrs () . child_parents_attr (& ctx . str)"⟩, .modelled, "expand.rs:render_child_fragment:child_parents_attr unwrap"),
  (⟨"expand.rs", "render_child_fragment", "unwrap(child_parents . find (| child_data | child_data . check_matc)"⟩, .modelled, "expand.rs:render_child_fragment:child_data unwrap"),
  (⟨"expand.rs", "render_parent_child_fragment", "unwrap(depth)"⟩, .guarded, "`depth.is_none() ||` short-circuits"),
  (⟨"expand.rs", "render_parent_child_fragment", "unwrap(parent_child_field . sub_path [depth] . 1 . as_ref ())"⟩, .modelled, "expand.rs:render_parent_child_fragment:sub_path type unwrap"),
  (⟨"expand.rs", "render_parent_child_fragment", "index(parent_child_field . sub_path [depth])"⟩, .modelled, "expand.rs:render_parent_child_fragment:sub_path index"),
  (⟨"expand.rs", "render_parent_child_fragment", "unwrap(field . ty . as_ref ())"⟩, .modelled, "expand.rs:render_parent_child_fragment:field.ty unwrap"),
  (⟨"expand.rs", "struct_post_init", "todo!()"⟩, .modelled, "expand.rs:struct_post_init:todo"),
  (⟨"expand.rs", "render_parent", "unreachable!(\"5\")"⟩, .modelled, "expand.rs:render_parent:unreachable(5)"),
  (⟨"expand.rs", "render_child", "index(child_path . child_path [field_ctx . 1])"⟩, .modelled, "expand.rs:render_child:child_path index"),
  (⟨"expand.rs", "render_child", "unreachable!(\"15\")"⟩, .modelled, "expand.rs:render_child:unreachable(15)"),
  (⟨"expand.rs", "render_struct_line", "unreachable!(\"6\")"⟩, .modelled, "expand.rs:render_struct_line:unreachable(6)"),
  (⟨"expand.rs", "render_enum_line", "todo!()"⟩, .modelled, "expand.rs:render_enum_line:todo"),
  (⟨"expand.rs", "render_ghost_line", "unreachable!(\"7\")"⟩, .modelled, "expand.rs:render_ghost_line:unreachable(7)"),
  (⟨"expand.rs", "render_enum_ghost_line", "unreachable!(\"17\")"⟩, .modelled, "expand.rs:render_enum_ghost_line:unreachable(17)"),
  (⟨"expand.rs", "quote_err_ty", "unwrap(ctx . struct_attr . err_ty . as_ref ())"⟩, .modelled, "expand.rs:quote_try_*_trait:err_ty unwrap"),
  (⟨"expand.rs", "get_ident", "unreachable!(\"8\")"⟩, .modelled, "expand.rs:ApplicableAttr::get_ident:unreachable(8)"),
  (⟨"expand.rs", "get_ident", "unreachable!(\"18\")"⟩, .modelled, "expand.rs:ApplicableAttr::get_ident:unreachable(18)"),
  (⟨"expand.rs", "get_ident", "unreachable!(\"19\")"⟩, .modelled, "expand.rs:ApplicableAttr::get_ident:unreachable(19)"),
  (⟨"expand.rs", "get_ident", "unreachable!(\"9\")"⟩, .modelled, "expand.rs:ApplicableAttr::get_ident:unreachable(9)"),
  (⟨"expand.rs", "get_field_name_or", "unreachable!(\"10\")"⟩, .modelled, "expand.rs:ApplicableAttr::get_field_name_or:unreachable(10)"),
  (⟨"expand.rs", "get_stuff", "unwrap(attr)"⟩, .guarded, "`attr.is_some_and(..)` checked in the condition"),
  (⟨"expand.rs", "get_stuff", "unwrap(ghost_attr . action . as_ref ())"⟩, .modelled, "expand.rs:ApplicableAttr::get_stuff:ghost action unwrap")]

/-- C16-1: the inventory regenerated from the sources is exactly the table the model was written against.
    A new `unwrap()` / `todo!()` / index / `panic!` anywhere in the non-test sources breaks this obligation. -/
theorem C16_inventory : Gen.panicSites = siteTable.map (·.1) := rfl

/-- the labels the model can answer `.panic` with -/
def modelledLabels : List String := (siteTable.filter (·.2.1 == .modelled)).map (·.2.2)

/-- written out, so that the `example`s about the site lists compare literals with literals: evaluating the filter over
    the table in each of them, and comparing strings in the kernel, costs five times as much -/
theorem modelledLabels_eq : modelledLabels = [
    "attr.rs:GhostIdent::get_ident:unreachable(16)", "attr.rs:ChildPath::get_child_path_str:index",
    "ast.rs:DataType::named_fields:panic", "expand.rs:struct_init_block_inner:ghost child_path unwrap",
    "expand.rs:struct_init_block_inner:unreachable(2)", "expand.rs:variant_destruct_block:unreachable(4)",
    "expand.rs:render_child_fragment:child_parents_attr unwrap", "expand.rs:render_child_fragment:child_data unwrap",
    "expand.rs:render_parent_child_fragment:sub_path type unwrap", "expand.rs:render_parent_child_fragment:sub_path index",
    "expand.rs:render_parent_child_fragment:field.ty unwrap", "expand.rs:struct_post_init:todo",
    "expand.rs:render_parent:unreachable(5)", "expand.rs:render_child:child_path index",
    "expand.rs:render_child:unreachable(15)", "expand.rs:render_struct_line:unreachable(6)",
    "expand.rs:render_enum_line:todo", "expand.rs:render_ghost_line:unreachable(7)",
    "expand.rs:render_enum_ghost_line:unreachable(17)", "expand.rs:quote_try_*_trait:err_ty unwrap",
    "expand.rs:ApplicableAttr::get_ident:unreachable(8)", "expand.rs:ApplicableAttr::get_ident:unreachable(18)",
    "expand.rs:ApplicableAttr::get_ident:unreachable(19)", "expand.rs:ApplicableAttr::get_ident:unreachable(9)",
    "expand.rs:ApplicableAttr::get_field_name_or:unreachable(10)",
    "expand.rs:ApplicableAttr::get_stuff:ghost action unwrap"] := rfl

/-- C16-2 (site `render_parent:unreachable(5)`): never reached — `struct_post_init` only calls it for Into kinds -/
theorem C16_site_render_parent (f : Field) (ctx : ImplContext) (h : ctx.kind.isFrom = false) :
    ∃ ts, renderParent f ctx = .ok ts := by
  unfold renderParent
  cases hk : ctx.kind <;> cases hf : ctx.fallible <;> simp_all [Kind.isFrom]

/-- C16-2 (site `render_ghost_line:unreachable(7)`): not reached for Into / IntoExisting kinds with a member ghost -/
theorem C16_site_render_ghost_line (g : GhostData) (ctx : ImplContext) (m : Member)
    (h : ctx.kind.isFrom = false) (hm : g.ghostIdent = .member m) :
    ∃ ts, renderGhostLine g ctx = .ok ts := by
  unfold renderGhostLine
  simp only [hm, GhostIdent.getIdent, bind, Except.bind]
  split
  · split <;> exact ⟨_, rfl⟩
  · split <;> exact ⟨_, rfl⟩
  · exact ⟨_, rfl⟩
  · exact ⟨_, rfl⟩
  next hc =>
    rw [cls_from hc] at h
    cases h

/-- C16-2 (the three `err_ty.unwrap()` sites): not reached when the instruction carries an error type -/
theorem C16_site_err_ty (ctx : ImplContext) (t : TypePath) (h : ctx.structAttr.errTy = some t) :
    ∃ ts, errTyPath ctx = .ok ts := by
  simp [errTyPath, h]

/-- C16-5 for the outermost shape: a union is answered with a diagnostic -/
theorem C16_union (b : Back) (node : RawInput) (h : node.body = .union) :
    derive b node = .err ["#[derive(o2o)] only supports structs and enums."] := by
  simp [derive, h]

/-- `derive` is total: it always yields one of the five outcomes (Lean functions terminate; every loop of the
    expander is structural recursion on explicit fuel, and running out of fuel is reported as `unsupported`,
    never as agreement) -/
theorem C16_outcome_cases (b : Back) (node : RawInput) :
    (∃ ts, derive b node = .ok ts) ∨ (∃ ms, derive b node = .err ms) ∨ derive b node = .libErr ∨
    (∃ s, derive b node = .panic s) ∨ (∃ w, derive b node = .unsupported w) := by
  cases h : derive b node with
  | ok ts => exact Or.inl ⟨ts, rfl⟩
  | err ms => exact Or.inr (Or.inl ⟨ms, rfl⟩)
  | libErr => exact Or.inr (Or.inr (Or.inl rfl))
  | panic s => exact Or.inr (Or.inr (Or.inr (Or.inl ⟨s, rfl⟩)))
  | unsupported w => exact Or.inr (Or.inr (Or.inr (Or.inr ⟨w, rfl⟩)))

/-- C16 (sites `err_ty.unwrap()` in the three fallible skeletons): an input that validation accepts never reaches them -/
theorem C16_err_ty_sites_unreachable (input : DataType) (ctx : ImplContext)
    (hv : validate input = []) (hc : ctx ∈ implContexts input) (hf : ctx.fallible = true) :
    ∃ ts, errTyPath ctx = .ok ts := by
  obtain ⟨_, ta, hta, hcore⟩ := mem_implContexts hc
  rw [hf] at hta
  cases herr : ctx.structAttr.errTy with
  | some t => exact C16_site_err_ty ctx t herr
  | none =>
    have hk : ctx.kind ∈ validateKinds := by
      cases ctx.kind <;> simp [validateKinds]
    exact (not_reported hv (C15_complete_R3a_validate input ctx.kind ctx.structAttr hk
      (List.mem_map.mpr ⟨ta, hta, hcore⟩) herr)).elim

theorem applicableAttr_ghost_iff {a : MemberAttrs} {k : Kind} {fallible : Bool} {ty : TypePath} {g : FieldGhostAttrCore} :
    a.applicableAttr k fallible ty = some (.ghost g) ↔ a.ghost ty k = some g := by
  unfold MemberAttrs.applicableAttr
  cases hg : a.ghost ty k with
  | some g' => simp [HOrElse.hOrElse, OrElse.orElse, Option.orElse]
  | none =>
    -- what follows the ghost lookup is a `map ApplicableAttr.field`
    simp only [Option.map_none, Option.orElse_eq_orElse, Option.orElse_eq_or, Option.none_or, Option.map_eq_some_iff]
    constructor
    · rintro ⟨_, _, h⟩
      cases h
    · intro h
      cases h

/-- C16 (struct members): a member that takes part in an Into / IntoExisting conversion has no ghost as its
    applicable instruction — so the `Ghost` arms of `get_field_name_or` (`unreachable!("10")`) and `get_action_or`
    cannot be entered from `render_struct_line`'s Into / IntoExisting arms -/
theorem C16_member_not_ghost (ctx : ImplContext) (f : Field) (hk : ctx.kind.isFrom = false) (hs : fieldSkipped ctx f = false)
    (g : FieldGhostAttrCore) : f.attrs.applicableAttr ctx.kind ctx.fallible ctx.ty ≠ some (.ghost g) := by
  intro h
  have hg := applicableAttr_ghost_iff.mp h
  simp [fieldSkipped, hk, hg] at hs

/-- C16 (variants, From side): a variant that contributes an arm to a From conversion has no ghost as its applicable
    instruction — so `render_enum_line`'s From arm never enters the `Ghost` arms of `get_action_or` /
    `get_field_name_or` -/
theorem C16_variant_not_ghost_from (ctx : ImplContext) (v : Variant) (hk : ctx.kind.isFrom = true) (hc : variantContributes ctx v = true)
    (g : FieldGhostAttrCore) : v.attrs.applicableAttr ctx.kind ctx.fallible ctx.ty ≠ some (.ghost g) := by
  intro h
  have hg := applicableAttr_ghost_iff.mp h
  simp [variantContributes, hk, hg] at hc

/-- since fix 597b696 `get_action_or` is total on every instruction -/
theorem C16_getActionOr_total (a : ApplicableAttr) (fp : Option TS) (ctx : ImplContext) (or : TS) : ∃ ts, a.getActionOr fp ctx or = .ok ts := by
  cases a <;> simp only [ApplicableAttr.getActionOr] <;> repeat' split
  all_goals exact ⟨_, rfl⟩

/-- C16 (former site `get_stuff:unreachable(12)`): the value of a mapped member is defined for every combination of
    member name / expression, in every context -/
theorem C16_getStuffInner_total (m : Option Member) (a : Option TS) (obj : TS) (fp : Member → TS) (ctx : ImplContext) (or : Member) :
    ∃ ts, getStuffInner m a obj fp ctx or = .ok ts := by
  unfold getStuffInner
  repeat' split
  all_goals exact ⟨_, rfl⟩

theorem getActionOr_np {s : String} {a : ApplicableAttr} {fp : Option TS} {ctx : ImplContext} {or : TS} : NP s (a.getActionOr fp ctx or) :=
  NP.of_total (C16_getActionOr_total a fp ctx or)

theorem getStuffInner_np {s : String} {m : Option Member} {a : Option TS} {obj : TS} {fp : Member → TS} {ctx : ImplContext} {or : Member} :
    NP s (getStuffInner m a obj fp ctx or) :=
  NP.of_total (C16_getStuffInner_total m a obj fp ctx or)

theorem getFieldNameOr_np {s : String} {a : ApplicableAttr} {m : Member}
    (h : ∀ g, a = .ghost g → "expand.rs:ApplicableAttr::get_field_name_or:unreachable(10)" ≠ s) : NP s (a.getFieldNameOr m) := by
  cases a with
  | ghost g => exact NP.panicAt (h g rfl)
  | field c => exact NP.ok
  | parentChildField p k => simp only [ApplicableAttr.getFieldNameOr]; split <;> exact NP.ok

theorem getStuff_np {s : String} {a : ApplicableAttr} {obj : TS} {fp : Member → TS} {ctx : ImplContext} {or : Member}
    (h : ∀ g, a = .ghost g → g.action = none → "expand.rs:ApplicableAttr::get_stuff:ghost action unwrap" ≠ s) :
    NP s (a.getStuff obj fp ctx or) := by
  cases a with
  | field c => exact getStuffInner_np
  | parentChildField p k =>
    simp only [ApplicableAttr.getStuff]
    split
    · exact NP.ite (fun _ => getStuffInner_np) fun _ => getStuffInner_np
    · exact getStuffInner_np
  | ghost g =>
    simp only [ApplicableAttr.getStuff]
    split
    · exact NP.ok
    · exact NP.panicAt (h g rfl ‹_›)

theorem ghostIdent_np (s : String) (h : "attr.rs:GhostIdent::get_ident:unreachable(16)" ≠ s) (g : GhostIdent) : NP s (g.getIdent) := by
  unfold GhostIdent.getIdent
  split
  · exact NP.ok
  · exact NP.panicAt h

/-- the two accessors are total on every instruction that is not a ghost -/
theorem C16_accessors_total (a : ApplicableAttr) (hng : ∀ g, a ≠ .ghost g) (m : Member) (fp : Option TS) (ctx : ImplContext) (or : TS) :
    (∃ x, a.getFieldNameOr m = .ok x) ∧ (∃ ts, a.getActionOr fp ctx or = .ok ts) := by
  refine ⟨?_, C16_getActionOr_total a fp ctx or⟩
  cases a with
  | ghost g => exact absurd rfl (hng g)
  | field c => exact ⟨_, rfl⟩
  | parentChildField pc k =>
    simp only [ApplicableAttr.getFieldNameOr]
    split <;> exact ⟨_, rfl⟩

/-- C16 (site `render_enum_ghost_line:unreachable(17)`): an enum that validation accepts never reaches it — every
    entry of every enum-level `#[ghosts]` instruction names a variant (or a destructuring pattern), whatever the
    conversion kind -/
theorem C16_site_17_unreachable (e : Enum) (hv : validate (.enum e) = []) (ga : GhostsAttr) (hga : ga ∈ e.attrs.ghostsAttrs)
    (g : GhostData) (hg : g ∈ ga.attr.ghostData) (ctx : ImplContext) :
    ∃ ts, renderEnumGhostLine g ctx = .ok ts := by
  unfold renderEnumGhostLine
  split
  · -- an index as the name: reported
    rename_i hid
    have hmem : g ∈ (DataType.enum e).attrs.ghostsAttrs.flatMap (fun x => x.attr.ghostData) :=
      List.mem_flatMap.mpr ⟨ga, hga, hg⟩
    refine (not_reported hv (validate_of_end _ "Enum-level #[ghosts(...)] should name a variant of the other type, not an index."
      (fun es => ?_))).elim
    refine mem_foldl_of_mem (fun v es hm => ext_validateVariantFields v _ es _ hm) ?_
    exact mem_foldl_of_step hmem (fun y es hm => ext_enumGhostIdentPass y es _ hm)
      (fun es => by unfold enumGhostIdentPass; simp only [hid]; exact mem_insert_self)
  · split <;> exact ⟨_, rfl⟩
  · split <;> exact ⟨_, rfl⟩

/-- C16 (site `GhostIdent::get_ident:unreachable(16)`, struct level): in a struct that validation accepts every entry of
    every type-level `#[ghosts]` instruction names a member, so `get_ident` answers for it -/
theorem C16_site_16_struct (s : Struct) (hv : validate (.struct s) = []) (ga : GhostsAttr) (hga : ga ∈ s.attrs.ghostsAttrs)
    (g : GhostData) (hg : g ∈ ga.attr.ghostData) : ∃ m, g.ghostIdent.getIdent = .ok m := by
  cases hid : g.ghostIdent with
  | member m => exact ⟨m, rfl⟩
  | destruction d =>
    have hmem : g ∈ (DataType.struct s).attrs.ghostsAttrs.flatMap (fun x => x.attr.ghostData) :=
      List.mem_flatMap.mpr ⟨ga, hga, hg⟩
    refine (not_reported hv (validate_of_end _ "Struct-level #[ghosts(...)] should name a member of the other type, not a pattern."
      (fun es => ext_validateFields _ _ _ _ _ ?_))).elim
    exact mem_foldl_of_step hmem (fun y es hm => ext_ghostPatternPass _ y es _ hm)
      (fun es => by unfold ghostPatternPass; simp only [hid]; exact mem_insert_self)

/-- C16 (site `GhostIdent::get_ident:unreachable(16)`, variant level): in an enum that validation accepts every entry
    of every variant-level `#[ghosts]` instruction names a member -/
theorem C16_site_16_variant (e : Enum) (hv : validate (.enum e) = []) (v : Variant) (hvm : v ∈ e.variants)
    (ga : GhostsAttr) (hga : ga ∈ v.attrs.ghostsAttrs) (g : GhostData) (hg : g ∈ ga.attr.ghostData) :
    ∃ m, g.ghostIdent.getIdent = .ok m := by
  cases hid : g.ghostIdent with
  | member m => exact ⟨m, rfl⟩
  | destruction d =>
    have hmem : g ∈ v.attrs.ghostsAttrs.flatMap (fun x => x.attr.ghostData) := List.mem_flatMap.mpr ⟨ga, hga, hg⟩
    exact (not_reported hv (validate_of_variantGhost e v hvm g hmem _ (fun es =>
      ext_variantGhostChildPass g _ _ (by unfold ghostPatternPass; simp only [hid]; exact mem_insert_self)))).elim

/-- C16 (sites `struct_init_block_inner:unreachable(2)` and `render_child:unreachable(15)` via nested structs): an input
    that validation accepts has no `#[child_parents]` entry hinted `as Unit`, so no nested struct is ever rendered with
    the unit shape -/
theorem C16_child_hint_not_unit (input : DataType) (hv : validate input = [])
    (ca : ChildParentsAttr) (hca : ca ∈ input.attrs.childParentsAttrs) (cd : ChildParentData) (hcd : cd ∈ ca.childParents) :
    cd.typeHint ≠ .unit := by
  intro hu
  obtain ⟨pre, post, hsplit⟩ := List.append_of_mem hca
  obtain ⟨pre', post', hcp⟩ := List.append_of_mem hcd
  -- reported, by the message the entry loop has for `as Unit`
  refine not_reported hv (validate_of_childParents _ ?msg (fun es => ?rep))
  case rep =>
    unfold validateChildParentsAttrs
    rw [hsplit]
    -- the entry loop inside the instruction loop; both only add diagnostics
    refine foldl_snd_mem_of_step pre post ca _ [] _ _ (fun x s es m hm => ?_) fun s es => ?_
    · refine ext_foldl_snd x.childParents _ (fun _ _ _ _ hm => mem_insertIf (mem_insertIf hm)) [] _ m ?_
      cases x.containerTy
      · exact hm
      · exact mem_insertIf (mem_insertIf hm)
    · rw [hcp]
      refine foldl_snd_mem_of_step pre' post' cd _ [] _ _ (fun _ _ _ _ hm => mem_insertIf (mem_insertIf hm))
        fun _ _ => ?_
      exact mem_insertIf_self (c := (cd.typeHint == .unit) = true) (by simp [hu])

/-- what `check_child_errors` says about one level of a path -/
def childLevelMsg (dta : DataTypeAttrs) (tp : TypePath) (path : String) : Option String :=
  match dta.childParentsAttr tp with
  | some ca => if !ca.childParents.any (fun x => x.fieldPathStr == path) then some ("Missing '" ++ path ++ ": [Type Path]' instruction for type " ++ tp.pathStr) else none
  | none => some ("Missing #[child_parents(...)] instruction for " ++ tp.pathStr)

theorem checkChildPathErrors_eq (cp : ChildPath) (dta : DataTypeAttrs) (tp : TypePath) (es : Errors) :
    checkChildPathErrors cp dta tp es =
      cp.strs.foldl (fun es path => match childLevelMsg dta tp path with | some msg => es.insert msg | none => es) es := by
  unfold checkChildPathErrors childLevelMsg
  cases dta.childParentsAttr tp with
  | none => rfl
  | some ca =>
    simp only []
    congr
    funext es path
    split <;> rfl

theorem checkChildPath_reports (cp : ChildPath) (dta : DataTypeAttrs) (tp : TypePath) (path : String) (hp : path ∈ cp.strs)
    (msg : String) (hm : childLevelMsg dta tp path = some msg) (es : Errors) : msg ∈ checkChildPathErrors cp dta tp es := by
  rw [checkChildPathErrors_eq]
  refine mem_foldl_of_step hp (fun y es hm' => ?_) (fun es => ?_)
  · cases childLevelMsg dta tp y with
    | none => exact hm'
    | some _ => exact mem_insert_of_mem hm'
  · rw [hm]
    exact mem_insert_self

/-- C16 (sites `render_child_fragment: child_parents_attr(..).unwrap()` and `.find(..).unwrap()` for struct-level ghosts, since
    fix a4ff391): in a struct that validation accepts, every level of the path a type-level ghost of an Into conversion is
    addressed to has its `#[child_parents]` entry -/
theorem C16_ghost_child_paths_declared (s : Struct) (hv : validate (.struct s) = [])
    (a : TraitAttrCore) (k : Kind) (hx : (a, k) ∈ attrsByKind s.attrs) (hf : k.isFrom = false) (he : k.isIntoExisting = false)
    (ga : StructGhostAttrCore) (hga : s.attrs.ghostsAttr a.ty k = some ga) (g : GhostData) (hg : g ∈ ga.ghostData)
    (cp : ChildPath) (hcp : g.childPath = some cp) (path : String) (hp : path ∈ cp.strs) :
    childLevelMsg s.attrs a.ty path = none := by
  cases hm : childLevelMsg s.attrs a.ty path with
  | none => rfl
  | some msg =>
    have hcpm : cp ∈ ga.ghostData.filterMap (·.childPath) := List.mem_filterMap.mpr ⟨g, hg, hcp⟩
    refine (not_reported hv (validate_of_ghostChildPass s (a, k) hx msg (fun es => ?_))).elim
    unfold ghostChildPass
    simp only [hf, he, Bool.not_false, Bool.and_self, if_true, hga]
    exact mem_foldl_of_step hcpm (fun y es hm => ext_checkChildPathErrors y _ _ es _ hm)
      (fun es => checkChildPath_reports cp _ a.ty path hp msg hm es)

/-- the rule of fix 0466684, for a member of a struct and for a payload member of a variant alike -/
theorem parentTypePass_reports (f : Field) (byKind : List (TraitAttrCore × Kind)) (hty : f.ty = none)
    (hp : f.attrs.parentAttrs.any (parentNeedsType byKind) = true) (es : Errors) :
    ("Type of member " ++ f.member.str ++ " should be a path to a struct: #[parent(...)] constructs it in 'from' conversions.") ∈
      parentTypePass f byKind es := by
  unfold parentTypePass
  rw [if_pos (by rw [hty, hp]; rfl)]
  exact mem_insert_self

/-- C16 (site `render_parent_child_fragment: field.ty.unwrap()`, since fix 0466684 reported): in an input that validation
    accepts, a member with a `#[parent(..)]` list that some From conversion has to construct has a path type -/
theorem C16_parent_member_has_type (input : DataType) (hv : validate input = []) (f : Field) (hf : DataTypeMember.field f ∈ input.members)
    (hp : f.attrs.parentAttrs.any (parentNeedsType (attrsByKind input.attrs)) = true) :
    f.ty.isSome = true := by
  cases hty : f.ty with
  | some t => rfl
  | none =>
    -- one pass follows this one in the member loop
    exact (not_reported hv (validate_of_member input _ (.field f) hf fun es =>
      ext_validateMemberErrorInstrs _ _ _ _ (parentTypePass_reports f _ hty hp _))).elim

/-- C16 (site `struct_init_block_inner: g.child_path.as_ref().unwrap()`): never reached, for any struct and any
    conversion — a struct-level ghost entry stands in the member list handed to the descent only when it opened a group
    of its own, and an entry without a child path has the root's key, which is there from the start -/
theorem C16_site_ghost_child_path (input : Struct) (ctx : ImplContext) (fc : FieldContainer) (g : GhostData)
    (hfc : fc ∈ groupedMembers input ctx) (hg : fc.fieldData = .ghostData g) : g.childPath.isSome = true := by
  rcases groupedMembers_from input ctx fc hfc with ⟨x, _, hfd⟩ | ⟨_, _, g', _, cp, hcp, hfd⟩ | ⟨x, _, ps, pc, _, _, hfd⟩
  · rw [hfd] at hg; cases hg
  · rw [hfd] at hg; cases hg; rw [hcp]; rfl
  · rw [hfd] at hg; cases hg

theorem applicableAttr_not_pc (a : MemberAttrs) (k : Kind) (fallible : Bool) (ty : TypePath) (p : ParentChildField) (k' : Kind) :
    a.applicableAttr k fallible ty ≠ some (.parentChildField p k') := by
  unfold MemberAttrs.applicableAttr
  -- either half of the lookup is a `map` of another constructor
  simp only [Option.orElse_eq_orElse, Option.orElse_eq_or, ne_eq, Option.or_eq_some_iff, Option.map_eq_some_iff, not_or]
  refine ⟨?_, ?_⟩
  · rintro ⟨_, _, h⟩
    cases h
  · rintro ⟨_, _, _, h⟩
    cases h

theorem contributing_attr (ctx : ImplContext) (f : Field) (a : ApplicableAttr) (hs : fieldSkipped ctx f = false)
    (ha : f.attrs.applicableAttr ctx.kind ctx.fallible ctx.ty = some a) :
    (∃ c, a = .field c) ∨ (ctx.kind.isFrom = true ∧ ∃ g act, a = .ghost g ∧ g.action = some act) := by
  cases a with
  | parentChildField p k => exact absurd ha (applicableAttr_not_pc _ _ _ _ p k)
  | field c => exact Or.inl ⟨c, rfl⟩
  | ghost g =>
    have hg := applicableAttr_ghost_iff.mp ha
    cases hk : ctx.kind.isFrom with
    | false => exact absurd ha (C16_member_not_ghost ctx f hk hs g)
    | true =>
      simp only [fieldSkipped, hk, ghostNoDefault, hg, Bool.not_true, Bool.false_and, Bool.true_and, Bool.false_or] at hs
      cases hact : g.action with
      | none => simp [hact] at hs
      | some act => exact Or.inr ⟨rfl, g, act, rfl, hact⟩

/-- C16 (site `get_stuff: ghost_attr.action.unwrap()`, struct members): a member that contributes a line to a From
    conversion and whose applicable instruction is a ghost has a default value — a bare `#[ghost]` member leaves no
    line (its value comes from the `..update`) — so `get_stuff`'s `Ghost` arm never unwraps `None` there -/
theorem C16_site_get_stuff_ghost (ctx : ImplContext) (f : Field) (hk : ctx.kind.isFrom = true) (hs : fieldSkipped ctx f = false)
    (g : FieldGhostAttrCore) (ha : f.attrs.applicableAttr ctx.kind ctx.fallible ctx.ty = some (.ghost g))
    (obj : TS) (fp : Member → TS) (or : Member) :
    ∃ ts, (ApplicableAttr.ghost g).getStuff obj fp ctx or = .ok ts := by
  rcases contributing_attr ctx f _ hs ha with ⟨c, hc⟩ | ⟨_, g', act, hg, hact⟩
  · cases hc
  · cases hg
    exact ⟨quoteAction act none ctx, by simp [ApplicableAttr.getStuff, hact]⟩

/-- the member and the instruction `render_struct_line` works with (its first two `let`s): those of the nested field `pc`
    of a `#[parent(..)]` list when the line of such a field is written -/
def lineMember (f : Field) (pc : Option ParentChildField) : Member :=
  match pc with | some p => p.thisMember | none => f.member

def lineAttr (f : Field) (ctx : ImplContext) (pc : Option ParentChildField) : Option ApplicableAttr :=
  match pc with | some p => some (.parentChildField p ctx.kind) | none => f.attrs.applicableAttr ctx.kind ctx.fallible ctx.ty

/-- `h6` is the arm of `unreachable!("6")`; `ha` follows the arms that take an instruction: outside From they ask it for the
    counterpart's field name (`get_field_name_or`; `get_ident` for a positional member under a struct-shaped counterpart),
    in a From conversion for the value (`get_stuff`) -/
theorem renderStructLine_np (s : String) (f : Field) (ctx : ImplContext) (hint : TypeHint) (idx : Nat) (pc : Option ParentChildField)
    (h6 : ∀ n, pc = none → f.member = .unnamed n → hint = .struct → f.attrs.applicableAttr ctx.kind ctx.fallible ctx.ty = none →
      f.attrs.hasParentAttr ctx.ty = false → "expand.rs:render_struct_line:unreachable(6)" ≠ s)
    (ha : ∀ a, lineAttr f ctx pc = some a →
      (ctx.kind.cls ≠ .from_ → NP s (a.getFieldNameOr f.member) ∧
        ∀ n, lineMember f pc = .unnamed n → hint = .struct → NP s a.getIdent) ∧
      (ctx.kind.cls = .from_ → ∀ obj fp or, NP s (a.getStuff obj fp ctx or))) :
    NP s (renderStructLine f ctx hint idx pc) := by
  unfold renderStructLine
  simp only []
  split
  -- (`split` names its goals `h_1` … `h_37`, after the alternatives of the `match` in the order they are written)
  -- the arm of `unreachable!("6")`
  case h_18 =>
    rename_i hm hattr
    split
    · exact NP.pure
    · rename_i hp
      cases pc with
      | some p => cases hattr
      | none => exact NP.panicAt (h6 _ rfl hm rfl hattr (by simpa using hp))
  -- Into / IntoExisting, written by the counterpart's name
  case h_19 | h_20 | h_21 | h_22 | h_31 | h_32 =>
    rename_i hattr hcls
    have hnf : ctx.kind.cls ≠ .from_ := by rw [hcls]; decide
    refine NP.bind ((ha _ hattr).1 hnf).1 fun _ => NP.bind getActionOr_np fun _ => ?_
    first | exact NP.pure | exact NP.ite_pure
  -- .. by position
  case h_23 | h_24 | h_29 | h_30 =>
    refine NP.bind getActionOr_np fun _ => ?_
    first | exact NP.pure | exact NP.ite_pure
  -- .. a positional member under a struct-shaped counterpart: the instruction has to give the name
  case h_33 | h_34 =>
    rename_i hm hattr hcls
    have hnf : ctx.kind.cls ≠ .from_ := by rw [hcls]; decide
    refine NP.bind (((ha _ hattr).1 hnf).2 _ hm rfl) fun _ => NP.bind getActionOr_np fun _ => ?_
    first | exact NP.pure | exact NP.ite_pure
  -- the arms of a member without an instruction write their line at once (under `if ctx.hasPostInit` in some)
  all_goals try (first | exact NP.pure | exact NP.ite_pure)
  -- what is left: From
  all_goals
    rename_i hattr hcls
    exact NP.bind ((ha _ hattr).2 hcls _ _ _) fun _ => NP.pure

theorem structLine_np (s : String) (f : Field) (ctx : ImplContext) (hint : TypeHint) (idx : Nat) (hs : fieldSkipped ctx f = false)
    (h6 : ∀ n, f.member = .unnamed n → hint = .struct → f.attrs.applicableAttr ctx.kind ctx.fallible ctx.ty = none →
      f.attrs.hasParentAttr ctx.ty = false → "expand.rs:render_struct_line:unreachable(6)" ≠ s)
    (h8 : ∀ n c, f.member = .unnamed n → hint = .struct → ctx.kind.isFrom = false →
      f.attrs.applicableAttr ctx.kind ctx.fallible ctx.ty = some (.field c) → c.member = none →
      "expand.rs:ApplicableAttr::get_ident:unreachable(8)" ≠ s) :
    NP s (renderStructLine f ctx hint idx none) := by
  refine renderStructLine_np s f ctx hint idx none (fun n _ => h6 n) (fun a ha => ?_)
  rcases contributing_attr ctx f a hs ha with ⟨c, rfl⟩ | ⟨hfrom, g, act, rfl, hact⟩
  · refine ⟨fun hc => ⟨NP.ok, fun n hm hh => ?_⟩, fun _ _ _ _ => getStuffInner_np⟩
    simp only [ApplicableAttr.getIdent]
    split
    · exact NP.ok
    · exact NP.panicAt (h8 n c hm hh (cls_ne_from hc) ha ‹_›)
  · refine ⟨fun hc => ?_, fun _ _ _ _ => getStuff_np (fun g' hg' hn => by cases hg'; rw [hact] at hn; cases hn)⟩
    rw [cls_ne_from hc] at hfrom
    cases hfrom

theorem parentLine_np (s : String) (f : Field) (ctx : ImplContext) (hint : TypeHint) (idx : Nat) (pc : ParentChildField)
    (h18 : ∀ n a, pc.thisMember = .unnamed n → hint = .struct → ctx.kind.isFrom = false → pc.getForKind ctx.kind = some a →
      a.thatMember = none → "expand.rs:ApplicableAttr::get_ident:unreachable(18)" ≠ s)
    (h19 : ∀ n, pc.thisMember = .unnamed n → hint = .struct → ctx.kind.isFrom = false → pc.getForKind ctx.kind = none →
      "expand.rs:ApplicableAttr::get_ident:unreachable(19)" ≠ s) :
    NP s (renderStructLine f ctx hint idx (some pc)) := by
  refine renderStructLine_np s f ctx hint idx (some pc) (fun _ h => by cases h) (fun a ha => ?_)
  cases ha
  refine ⟨fun hc => ⟨getFieldNameOr_np (fun g h => by cases h), fun n hm hh => ?_⟩,
    fun _ _ _ _ => getStuff_np (fun g h => by cases h)⟩
  simp only [ApplicableAttr.getIdent]
  split
  · split
    · exact NP.ok
    · exact NP.panicAt (h18 n _ hm hh (cls_ne_from hc) ‹_› ‹_›)
  · exact NP.panicAt (h19 n hm hh (cls_ne_from hc) ‹_›)

/-- C16 (site `get_ident:unreachable(9)`): `render_struct_line` never reaches it for a member that contributes a line
    (nor for a nested member of a `#[parent(..)]` list) — `get_ident` is only asked in the Into / IntoExisting arms
    of a positional member under a struct-shaped counterpart, where the applicable instruction is never a ghost -/
theorem C16_site_9_unreachable (f : Field) (ctx : ImplContext) (hint : TypeHint) (idx : Nat) (pc : Option ParentChildField)
    (hs : pc = none → fieldSkipped ctx f = false) :
    renderStructLine f ctx hint idx pc ≠ .error (.panic "expand.rs:ApplicableAttr::get_ident:unreachable(9)") := by
  cases pc with
  | some p => exact parentLine_np _ f ctx hint idx p (fun _ _ _ _ _ _ _ => by simp) (fun _ _ _ _ _ => by simp)
  | none => exact structLine_np _ f ctx hint idx (hs rfl) (fun _ _ _ _ _ => by simp) (fun _ _ _ _ _ _ _ => by simp)

/-- C16 (the member lines of a struct body, all sites at once): for a member that contributes a line — any conversion
    kind, any shape hint, any position — `render_struct_line` either succeeds or stops at one of two sites, both listed
    findings: `unreachable!("6")` (a positional member under a struct-shaped level without a name) and
    `unreachable!("8")` (an instruction without a member name where the counterpart needs one). No other `unwrap`,
    `unreachable!` or index of the functions it calls (`get_stuff`, `get_action_or`, `get_field_name_or`, `get_ident`)
    can be reached from it. -/
theorem C16_struct_line_panics (f : Field) (ctx : ImplContext) (hint : TypeHint) (idx : Nat) (s : String)
    (hs : fieldSkipped ctx f = false)
    (h : renderStructLine f ctx hint idx none = .error (.panic s)) :
    s = "expand.rs:render_struct_line:unreachable(6)" ∨ s = "expand.rs:ApplicableAttr::get_ident:unreachable(8)" := by
  simpa using NP.sites [_, _] (fun s hA => structLine_np s f ctx hint idx hs (fun _ _ _ _ _ => hA _ (.head _))
    (fun _ _ _ _ _ _ _ => hA _ (.tail _ (.head _)))) s h

/-- C16 (the lines of the nested members of a `#[parent(..)]` list, all sites at once): `render_struct_line` either
    succeeds or stops at `unreachable!("18")` / `unreachable!("19")` — both listed findings (a positional nested member
    under a struct-shaped level whose instruction names no member / has no instruction for the kind) -/
theorem C16_parent_line_panics (f : Field) (ctx : ImplContext) (hint : TypeHint) (idx : Nat) (pc : ParentChildField) (s : String)
    (h : renderStructLine f ctx hint idx (some pc) = .error (.panic s)) :
    s = "expand.rs:ApplicableAttr::get_ident:unreachable(18)" ∨ s = "expand.rs:ApplicableAttr::get_ident:unreachable(19)" := by
  simpa using NP.sites [_, _] (fun s hA => parentLine_np s f ctx hint idx pc (fun _ _ _ _ _ _ _ => hA _ (.head _))
    (fun _ _ _ _ _ => hA _ (.tail _ (.head _)))) s h

/-- the names of these `#[ghosts]` entries can all be asked for (without reaching the panic at `s`) -/
def GhostsOK (s : String) (gas : List GhostsAttr) : Prop := ∀ ga ∈ gas, ∀ g ∈ ga.attr.ghostData, NP s g.ghostIdent.getIdent

theorem ghostsOK_of_ne (s : String) (h16 : "attr.rs:GhostIdent::get_ident:unreachable(16)" ≠ s) (gas : List GhostsAttr) :
    GhostsOK s gas := fun _ _ g _ => ghostIdent_np _ h16 g.ghostIdent

theorem ghostsAttr_mem {a : DataTypeAttrs} {ty : TypePath} {k : Kind} {ga : StructGhostAttrCore}
    (h : a.ghostsAttr ty k = some ga) : ∃ x ∈ a.ghostsAttrs, x.attr = ga := by
  unfold DataTypeAttrs.ghostsAttr at h
  obtain ⟨x, hx, rfl⟩ := Option.map_eq_some_iff.mp h
  exact ⟨x, (findDedicatedOrDefault_some hx).1, rfl⟩

theorem variantDestructBlock_np (s : String) (input : Struct) (ctx : ImplContext) (hok : GhostsOK s input.attrs.ghostsAttrs) :
    NP s (variantDestructBlock input ctx) := by
  unfold variantDestructBlock
  simp only []
  refine NP.bind_post (P := fun r => r.2 ≠ .unspecified) ?_ ?_ (fun r hr => NP.bind ?_ (fun _ => ?_))
  · refine NP.ite (fun _ => ?_) (fun _ => NP.ite_pure)
    refine NP.bind (NP.foldlM_mem (fun acc x hx => ?_)) (fun _ => NP.pure)
    split
    · rename_i a ha
      split
      · exact NP.pure
      · rename_i hfrom
        refine NP.bind (getFieldNameOr_np (fun g hg => ?_)) (fun _ => NP.pure)
        -- a ghost member is not among the visible ones on the From side
        have := applicableAttr_ghost_iff.mp (hg ▸ ha)
        simp [this, show ctx.kind.isFrom = true by simpa using hfrom] at hx
    · exact NP.pure
  · exact Post.ite (Post.bind_any (fun _ => Post.pure (by simp)))
      (Post.ite (Post.pure (by simp)) (Post.pure (by simp)))
  · split
    · split
      · rename_i ga hga
        obtain ⟨x, hx, rfl⟩ := ghostsAttr_mem hga
        refine NP.foldlM_mem (fun acc g hg => NP.bind (hok x hx g hg) (fun m => ?_))
        split <;> exact NP.pure
      · exact NP.pure
    · exact NP.pure
  · obtain ⟨ids, hint⟩ := r
    cases hint with
    | unspecified => exact absurd rfl hr
    | struct => exact NP.pure
    | tuple => exact NP.pure
    | unit => exact NP.pure

/-- C16 (site `variant_destruct_block:unreachable(4)`): never reached, for any variant and any conversion — the shape
    computed in the first step is `struct`, `unit` or `tuple`, never left unspecified -/
theorem C16_site_4_unreachable (input : Struct) (ctx : ImplContext) :
    variantDestructBlock input ctx ≠ .error (.panic "expand.rs:variant_destruct_block:unreachable(4)") :=
  variantDestructBlock_np _ input ctx (ghostsOK_of_ne _ (by simp) _)

/-- C16 (`variant_destruct_block`, all sites at once): the destructuring pattern of a variant is either written or
    the function stops at `GhostIdent::get_ident`'s `unreachable!("16")` (a destructuring pattern as the name of a
    variant-level ghost; reported by validation since fix 54c4df8, `C16_site_16_variant`). `unreachable!("4")` and —
    because ghost payload members are left out of a From pattern before their name is asked —
    `get_field_name_or`'s `unreachable!("10")` cannot be reached from it. -/
theorem C16_variant_destruct_panics (input : Struct) (ctx : ImplContext) (s : String)
    (h : variantDestructBlock input ctx = .error (.panic s)) :
    s = "attr.rs:GhostIdent::get_ident:unreachable(16)" := by
  simpa using NP.sites [_] (fun s hA => variantDestructBlock_np s input ctx (ghostsOK_of_ne s (hA _ (.head _)) _)) s h

theorem getStr_np (s : String) (c : ChildPath) (d : Option Nat)
    (h : ∀ n, d = some n → c.strs[n]? = none → "attr.rs:ChildPath::get_child_path_str:index" ≠ s) : NP s (c.getStr d) := by
  unfold ChildPath.getStr
  split
  · exact NP.ok
  · split
    · exact NP.ok
    · exact NP.panicAt (h _ rfl ‹_›)

/-- the key of the level being rendered (none at the top level) can be asked for: `get_child_path_str` at the level's own
    depth, which `level_break` and the ghost lines of a nested level call -/
def KeyOK (s : String) (fctx : FieldCtx) : Prop := ∀ cp x d, fctx = some (cp, x, d) → NP s (cp.getStr (some d))

theorem KeyOK.top {s : String} : KeyOK s none := fun _ _ _ h => by cases h

theorem KeyOK.level {s : String} {cp : ChildPath} {x : Option ChildRenderContext} {d : Nat} (h : NP s (cp.getStr (some d))) :
    KeyOK s (some (cp, x, d)) := fun _ _ _ e => by cases e; exact h

theorem KeyOK.of_ne {s : String} (h : "attr.rs:ChildPath::get_child_path_str:index" ≠ s) (fctx : FieldCtx) : KeyOK s fctx :=
  fun _ _ _ _ => getStr_np s _ _ (fun _ _ _ => h)

theorem renderGhostLine_np (s : String) (g : GhostData) (ctx : ImplContext) (hid : NP s g.ghostIdent.getIdent)
    (hk : ctx.kind.isFrom = false) : NP s (renderGhostLine g ctx) := by
  unfold renderGhostLine
  refine NP.bind hid (fun m => ?_)
  split
  · exact NP.ite_pure
  · exact NP.ite_pure
  · exact NP.pure
  · exact NP.pure
  next hc =>
    rw [cls_from hc] at hk
    cases hk

theorem structGhostLines_np (s : String) (ctx : ImplContext) (fctx : FieldCtx) (hok : GhostsOK s ctx.input.attrs.ghostsAttrs)
    (hkey : KeyOK s fctx) : NP s (structGhostLines ctx fctx) := by
  unfold structGhostLines
  split
  · rename_i hk
    have hk' : ctx.kind.isFrom = false := by simpa using hk
    split
    · rename_i ga hga
      obtain ⟨x, hx, rfl⟩ := ghostsAttr_mem hga
      refine NP.foldlM_mem (fun acc g hg => ?_)
      have hline : NP s (do return acc ++ (← renderGhostLine g ctx)) :=
        NP.bind (renderGhostLine_np _ _ _ (hok x hx g hg) hk') (fun _ => NP.pure)
      split
      · refine NP.bind ?_ (fun a => NP.bind (hkey _ _ _ rfl) (fun b => ?_))
        · unfold GhostData.getChildPathStr
          split
          · exact getStr_np _ _ _ (fun _ h => by cases h)
          · exact NP.ok
        · split
          · exact hline
          · exact NP.pure
      · exact hline
      · exact NP.pure
    · exact NP.pure
  · exact NP.pure

/-- C16 (the struct-level `#[ghosts]` lines of one level, all sites at once): they are only written for Into /
    IntoExisting conversions, so `render_ghost_line`'s `unreachable!("7")` cannot be reached from here; what remains is
    `unreachable!("16")` (a destructuring pattern as a ghost's name: reported by validation, `C16_site_16_struct`) and the
    depth index of `get_child_path_str` -/
theorem C16_struct_ghost_lines_panics (ctx : ImplContext) (fieldCtx : FieldCtx) (s : String)
    (h : structGhostLines ctx fieldCtx = .error (.panic s)) :
    s = "attr.rs:GhostIdent::get_ident:unreachable(16)" ∨ s = "attr.rs:ChildPath::get_child_path_str:index" := by
  simpa using NP.sites [_, _] (fun s hA => structGhostLines_np s ctx fieldCtx (ghostsOK_of_ne s (hA _ (.head _)) _)
    (KeyOK.of_ne (hA _ (.tail _ (.head _))) _)) s h

end O2o
