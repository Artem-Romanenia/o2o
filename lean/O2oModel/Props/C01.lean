/-
C01 — struct conversions move every value to the field the instructions designate.
`Spec.defaultLine` describes the line of a member without instruction by three orthogonal pieces (which slot, which source, which dialect) instead of
the 35-arm match of `render_struct_line`; the theorems show the expander's line is the specified one, cell by cell.
-/
import O2oModel.Lemmas.Sem
namespace O2o

namespace Spec

/-- the member of the counterpart a field corresponds to by default: same name, or same position under `as ()` -/
def counterpartMember (f : Field) (hint : TypeHint) : Member :=
  match f.member, hint with
  | .named _, .tuple => .unnamed f.idx
  | m, _ => m

/-- path of that member inside the counterpart (child path first) -/
def counterpartPath (f : Field) (ty : TypePath) (m : Member) : TS :=
  match f.attrs.child ty with
  | some ca => memberPathTS ca.childPath.path ++ [dot] ++ m.toTS
  | none => m.toTS

/-- default line of a plain struct (not a variant payload): slot / source / dialect -/
def defaultLine (f : Field) (ctx : ImplContext) (hint : TypeHint) : TS :=
  let obj := srcIdent ctx.kind ++ [dot]
  match ctx.kind.cls with
  | .from_ =>
    let src := obj ++ counterpartPath f ctx.ty (counterpartMember f hint)
    (match f.member with | .named n => [i n, colon] | .unnamed _ => []) ++ src ++ [comma]
  | .into =>
    let src := obj ++ f.member.toTS
    (match f.member, hint with | .named n, .tuple => [] | .named n, _ => [i n, colon] | .unnamed _, _ => []) ++ src ++ [comma]
  | .existing =>
    let src := obj ++ f.member.toTS
    let slot := match f.member, hint with
      | .named _, .tuple => (Member.unnamed f.idx).toTS
      | .named _, _ => counterpartPath f ctx.ty f.member
      | .unnamed _, _ => (Member.unnamed f.idx).toTS
    [i "other", dot] ++ slot ++ [eq] ++ src ++ [semi]

end Spec

/-- the cells in which a member without instructions has a defined default line (a tuple member under `as {}` has none:
    validation demands a name for it) -/
def defaultCell (f : Field) (k : KC) (hint : TypeHint) : Bool :=
  match f.member, k, hint with
  | .unnamed _, _, .struct => false
  | _, .into, .unit => false
  | _, .existing, .unit => false
  | .named _, .from_, _ => true
  | .unnamed _, .from_, _ => true
  | _, _, _ => true

/-- The default line under the hypotheses its arms read: a bare `#[parent]` is looked at on the From side only, the
    default-value dialect on the Into side only. `C01_default_line` is this with both assumed outright; `simple_line`
    and `C07_existing_vs_into_default` need the weaker form. -/
theorem defaultLine_eq (f : Field) (ctx : ImplContext) (hint : TypeHint) (idx : Nat)
    (ha : f.attrs.applicableAttr ctx.kind ctx.fallible ctx.ty = none)
    (hpar : ctx.kind.cls = .from_ → f.attrs.hasParentAttr ctx.ty = false)
    (hv : ctx.isVariant = false) (hpost : ctx.kind.cls = .into → ctx.hasPostInit = false)
    (hidx : ∀ n, f.member = .unnamed n → n = f.idx)
    (hcell : defaultCell f ctx.kind.cls hint = true) :
    renderStructLine f ctx hint idx none = .ok (Spec.defaultLine f ctx hint) := by
  unfold renderStructLine Spec.defaultLine Spec.counterpartPath Spec.counterpartMember
  unfold defaultCell at hcell
  -- what does not depend on the cell is rewritten once; each cell then reduces the match once, with its own discriminants
  simp only [ha, hv, Bool.false_eq_true, ↓reduceIte]
  cases hm : f.member with
  | named n =>
    cases hk : ctx.kind.cls <;> cases hint <;>
      simp [hm, hk, hpar, hpost, pure, Except.pure, Member.toTS, List.append_assoc] at hcell ⊢ <;>
      (cases f.attrs.child ctx.ty <;> simp)
  | unnamed n =>
    have hn := hidx n hm
    subst hn
    cases hk : ctx.kind.cls <;> cases hint <;>
      simp [hm, hk, hpar, hpost, pure, Except.pure, Member.toTS, List.append_assoc] at hcell ⊢ <;>
      (try (cases f.attrs.child ctx.ty <;> simp))

/-- the cells the other theorems use: a named member, no type hint -/
theorem defaultLine_named {f : Field} {ctx : ImplContext} {n : String} (hm : f.member = .named n) (idx : Nat)
    (ha : f.attrs.applicableAttr ctx.kind ctx.fallible ctx.ty = none)
    (hpar : ctx.kind.cls = .from_ → f.attrs.hasParentAttr ctx.ty = false)
    (hv : ctx.isVariant = false) (hpost : ctx.kind.cls = .into → ctx.hasPostInit = false) :
    renderStructLine f ctx .unspecified idx none = .ok (Spec.defaultLine f ctx .unspecified) :=
  defaultLine_eq f ctx .unspecified idx ha hpar hv hpost (by simp [hm]) (by cases ctx.kind.cls <;> simp [defaultCell, hm])

/-- C01-1 (default mapping): a member with no applicable instruction, outside a variant, is mapped to the same-named
    (or same-position) member of the counterpart, in every conversion kind and under every type hint -/
theorem C01_default_line (f : Field) (ctx : ImplContext) (hint : TypeHint) (idx : Nat)
    (ha : f.attrs.applicableAttr ctx.kind ctx.fallible ctx.ty = none)
    (hpar : f.attrs.hasParentAttr ctx.ty = false)
    (hv : ctx.isVariant = false) (hpost : ctx.hasPostInit = false)
    (hidx : ∀ n, f.member = .unnamed n → n = f.idx)
    (hcell : defaultCell f ctx.kind.cls hint = true) :
    renderStructLine f ctx hint idx none = .ok (Spec.defaultLine f ctx hint) :=
  defaultLine_eq f ctx hint idx ha (fun _ => hpar) hv (fun _ => hpost) hidx hcell

/-- C01 (rename): `#[map(other_name)]` on a named member of a named counterpart — From reads `value.other_name`,
    Into writes `other_name: self.name` -/
theorem C01_rename_from (f : Field) (ctx : ImplContext) (n x : String) (idx : Nat) (c : MemberAttrCore)
    (hm : f.member = .named n) (hk : ctx.kind.cls = .from_)
    (ha : f.attrs.applicableAttr ctx.kind ctx.fallible ctx.ty = some (.field c))
    (hc : c.member = some (.named x)) (hact : c.action = none)
    (hch : f.attrs.child ctx.ty = none) (hv : ctx.isVariant = false) :
    renderStructLine f ctx .unspecified idx none =
      .ok ([Tok.ident n, .punct ':' false] ++ srcIdent ctx.kind ++ [Tok.punct '.' false, .ident x, .punct ',' false]) := by
  unfold renderStructLine
  simp [hm, hk, ha, hc, hact, hch, hv, ApplicableAttr.getStuff, getStuffInner, bind, Except.bind, pure, Except.pure, Member.toTS,
    dot, colon, comma, List.append_assoc]

theorem C01_rename_into (f : Field) (ctx : ImplContext) (n x : String) (idx : Nat) (c : MemberAttrCore)
    (hm : f.member = .named n) (hk : ctx.kind.cls = .into)
    (ha : f.attrs.applicableAttr ctx.kind ctx.fallible ctx.ty = some (.field c))
    (hc : c.member = some (.named x)) (hact : c.action = none)
    (hv : ctx.isVariant = false) (hpost : ctx.hasPostInit = false) :
    renderStructLine f ctx .unspecified idx none =
      .ok ([Tok.ident x, .punct ':' false] ++ srcIdent ctx.kind ++ [Tok.punct '.' false, .ident n, .punct ',' false]) := by
  unfold renderStructLine
  simp [hm, hk, ha, hc, hact, hv, hpost, ApplicableAttr.getFieldNameOr, ApplicableAttr.getActionOr, bind, Except.bind, pure, Except.pure,
    Member.toTS, dot, colon, comma, List.append_assoc]

/-- C01 (inline expression): the member's value is the user's expression with `~` ↦ the member's path on the source
    object and `@` ↦ the source object -/
theorem C01_action_into (f : Field) (ctx : ImplContext) (n : String) (idx : Nat) (c : MemberAttrCore) (act : TS)
    (hm : f.member = .named n) (hk : ctx.kind.cls = .into)
    (ha : f.attrs.applicableAttr ctx.kind ctx.fallible ctx.ty = some (.field c))
    (hc : c.member = none) (hact : c.action = some act)
    (hv : ctx.isVariant = false) (hpost : ctx.hasPostInit = false) :
    renderStructLine f ctx .unspecified idx none =
      .ok ([Tok.ident n, .punct ':' false] ++ quoteAction act (some [Tok.ident n]) ctx ++ [Tok.punct ',' false]) := by
  unfold renderStructLine
  simp [hm, hk, ha, hc, hact, hpost, ApplicableAttr.getFieldNameOr, ApplicableAttr.getActionOr, bind, Except.bind, pure, Except.pure,
    Member.toTS, colon, comma]

/-- C01 (ghost default): on the From side a `#[ghost({expr})]` member takes the declared default -/
theorem C01_ghost_default_from (f : Field) (ctx : ImplContext) (n : String) (idx : Nat) (g : FieldGhostAttrCore) (act : TS)
    (hm : f.member = .named n) (hk : ctx.kind.cls = .from_)
    (ha : f.attrs.applicableAttr ctx.kind ctx.fallible ctx.ty = some (.ghost g)) (hact : g.action = some act) :
    renderStructLine f ctx .unspecified idx none =
      .ok ([Tok.ident n, .punct ':' false] ++ quoteAction act none ctx ++ [Tok.punct ',' false]) := by
  unfold renderStructLine
  simp [hm, hk, ha, hact, ApplicableAttr.getStuff, bind, Except.bind, pure, Except.pure, Member.toTS, colon, comma]

/-- C01-3 (`as_type`): `#[as_type(T)]` is exactly `from(~ as <field type>)` plus `into(~ as T)` (into_existing falls back to it) -/
theorem C01_as_type (fieldTy : TS) (a : AsAttr) :
    (addAsTypeAttrs fieldTy a).map (fun m => (m.attr.action, m.appl, m.fallible)) =
      [(some ([Tok.punct '~' false, .ident "as"] ++ fieldTy), [false, false, true, true, false, false], false),
       (some ([Tok.punct '~' false, .ident "as"] ++ a.tokens), [true, true, false, false, true, true], false)] := rfl

/-- C01-1 (whole body, any number of members): for a struct whose members are not flattened, the generated body is
    exactly one line per contributing member, in declaration order (`flatLines`: each line is `renderStructLine` of that
    member at its running position), followed by the struct-level ghost lines and `..update` — and nothing else, so no
    other field of the result is written. Skipped members (`fieldSkipped`) are ghosts and parents on the Into side and
    default-less ghosts on the From side. -/
theorem C01_flat_body (ctx : ImplContext) (named : Bool) (l : List (Nat × String × Field)) (fuel : Nat)
    (out : TS) (rest : List FieldContainer)
    (hf : l.length + 1 < fuel) (hc : ∀ t ∈ l, t.2.2.attrs.child ctx.ty = none)
    (h : structInitBlockInner fuel (flatContainers l) named ctx none = .ok (out, rest)) :
    ∃ ls g, flatLines ctx ctx.structAttr.typeHint (l.map (·.2.2)) 0 = .ok ls ∧ structGhostLines ctx none = .ok g ∧
      wrapInit ctx ctx.structAttr.typeHint named (ls ++ g ++ updateToks ctx) = .ok out ∧ rest = [] := by
  obtain ⟨n, rfl⟩ : ∃ n, fuel = n + 1 := ⟨fuel - 1, by omega⟩
  have hl := loop_leaf_block (lvl := none) (rest := []) (Or.inl rfl) (fun t => ⟨t.1, t.2.1, .field t.2.2⟩) (·.2.2)
    named ctx.structAttr.typeHint rfl l n [] 0 (by omega) (fun t ht => ⟨rfl, hc t ht⟩)
  unfold structInitBlockInner at h
  simp only [] at h
  rw [List.append_nil] at hl
  rw [flatContainers, hl] at h
  simp only [bind_ok_iff, accum_ok_iff, pure, Except.pure, Except.ok.injEq] at h
  obtain ⟨_, ⟨ls, hl, rfl⟩, g, hg, o, hw, h⟩ := h
  cases h
  exact ⟨ls, g, hl, hg, hw, rfl⟩

/-- the running position passed to a member's line counts only the contributing members before it -/
theorem C01_flatLines_cons_skipped (ctx : ImplContext) (hint : TypeHint) (f : Field) (fs : List Field) (idx : Nat)
    (h : fieldSkipped ctx f = true) : flatLines ctx hint (f :: fs) idx = flatLines ctx hint fs idx := by
  simp [flatLines, h]

theorem C01_flatLines_cons (ctx : ImplContext) (hint : TypeHint) (f : Field) (fs : List Field) (idx : Nat)
    (h : fieldSkipped ctx f = false) :
    flatLines ctx hint (f :: fs) idx = (do
      let l ← renderStructLine f ctx hint idx none
      let r ← flatLines ctx hint fs (idx + 1)
      return l ++ r) := by
  simp [flatLines, h]

/-- non-vacuity: the flat-body premises hold for a two-member struct -/
example : ∀ t ∈ ([(1, "a", (default : Field)), (2, "b", default)] : List (Nat × String × Field)),
    t.2.2.attrs.child (TypePath.ofTokens [Tok.ident "A"]) = none := by
  intro t ht
  simp at ht
  rcases ht with rfl | rfl <;> rfl

/-- C01 (ghost flavours, *table*, regenerated): `ghost_owned` / `ghosts_owned` apply to exactly the three owned
    conversion kinds, `ghost_ref` / `ghosts_ref` to exactly the three by-reference kinds, and `ghost` / `ghosts` to all
    six — at member level, variant level and type level. (The applicability vectors are read from the sources on every
    run; the model interprets them, so only this theorem notices a slip inside one of them.) -/
theorem C01_ghost_flavours :
    ([("ghost_owned", Gen.memberArms, false), ("ghost_ref", Gen.memberArms, true),
      ("ghosts_owned", Gen.memberArms, false), ("ghosts_ref", Gen.memberArms, true),
      ("ghosts_owned", Gen.typeArms, false), ("ghosts_ref", Gen.typeArms, true)].all (fun (name, arms, isRef) =>
        match findArm arms name true true with
        | some a => Kind.all.all (fun k => (applOf a.appl name).get k == (k.isRef == isRef))
        | none => false)
     && [("ghost", Gen.memberArms), ("ghosts", Gen.memberArms), ("ghosts", Gen.typeArms)].all (fun (name, arms) =>
        match findArm arms name true true with
        | some a => Kind.all.all (fun k => (applOf a.appl name).get k)
        | none => false)) = true := by decide +kernel

/-- The line of a `Simple` member, as a corollary of the default line and of the two rename theorems; the rename of an
    IntoExisting conversion, which none of them states, is read off `render_struct_line` here. -/
theorem simple_line (ctx : ImplContext) (f : Field) (n x : String) (idx : Nat) (h : Simple ctx f n x)
    (hv : ctx.isVariant = false) (hpost : ctx.kind.cls = .into → ctx.hasPostInit = false) :
    renderStructLine f ctx .unspecified idx none = .ok (simpleLine ctx.kind.cls n x) := by
  rcases h.how with ⟨ha, hp, rfl⟩ | ⟨c, ha, hc, hact⟩
  · rw [defaultLine_named h.named idx ha (fun _ => hp) hv hpost]
    cases hk : ctx.kind.cls <;>
      simp [Spec.defaultLine, Spec.counterpartPath, Spec.counterpartMember, hk, h.named, h.noChild, srcIdent_eq,
        ← cls_from_iff, simpleLine, tokLine, tokAssign, Member.toTS, i, p, dot, colon, comma, eq, semi]
  · cases hk : ctx.kind.cls with
    | from_ =>
      rw [C01_rename_from f ctx n x idx c h.named hk ha hc hact h.noChild hv, srcIdent_eq, cls_from hk]
      rfl
    | into =>
      rw [C01_rename_into f ctx n x idx c h.named hk ha hc hact hv (hpost hk), srcIdent_eq, cls_into_not_from hk]
      rfl
    | existing =>
      unfold renderStructLine
      simp [h.named, ha, hc, hact, hv, h.noChild, hk, srcIdent_eq, cls_not_from (Or.inr hk), simpleLine, tokAssign,
        ApplicableAttr.getFieldNameOr, ApplicableAttr.getActionOr, bind, Except.bind, pure, Except.pure, Member.toTS, i, dot, eq, semi]

theorem flatLines_simple (ctx : ImplContext) (fs : List (Field × String × String)) (hv : ctx.isVariant = false)
    (hpost : ctx.kind.cls = .into → ctx.hasPostInit = false) (hs : ∀ t ∈ fs, Simple ctx t.1 t.2.1 t.2.2) :
    flatLines ctx .unspecified (fs.map (·.1)) 0 = .ok (fs.flatMap fun t => simpleLine ctx.kind.cls t.2.1 t.2.2) := by
  apply flatLines_of_lines ctx .unspecified (·.1) (fun t => simpleLine ctx.kind.cls t.2.1 t.2.2) fs 0
  intro t ht
  exact ⟨(hs t ht).notSkipped, fun k => simple_line ctx t.1 t.2.1 t.2.2 k (hs t ht) hv hpost⟩

/-! Values, under the record semantics of `O2oModel/Sem.lean`. `fs` lists the members with, for each, its own name `n`
and the counterpart member `x` the instructions designate (`Simple`: no instruction — then `x = n` — or a rename
without expression). -/

/-- C01 (values, From): the body emitted for the members builds the record that holds, at each member `n`, exactly the
    value found at the designated counterpart member `x` of the source — and nothing else (the result has one binding
    per member, in declaration order); it is undefined only if some designated member does not exist in the source -/
theorem C01_value_from (ctx : ImplContext) (fs : List (Field × String × String))
    (hk : ctx.kind.cls = .from_) (hv : ctx.isVariant = false) (hs : ∀ t ∈ fs, Simple ctx t.1 t.2.1 t.2.2) :
    ∃ body, flatLines ctx .unspecified (fs.map (·.1)) 0 = .ok body ∧
      ∀ src : Sem.Rec, Sem.evalInit "value" src body = fs.mapM (fun t => (src.get? t.2.2).map fun v => (t.2.1, v)) := by
  refine ⟨_, flatLines_simple ctx fs hv (by simp [hk]) hs, fun src => ?_⟩
  simp only [hk, simpleLine]
  exact evalInit_tokLines "value" src fs (·.2.1) (·.2.2)

/-- C01 (values, Into): the counterpart record gets, at each designated member `x`, the value of the member `n` -/
theorem C01_value_into (ctx : ImplContext) (fs : List (Field × String × String))
    (hk : ctx.kind.cls = .into) (hv : ctx.isVariant = false) (hpost : ctx.hasPostInit = false)
    (hs : ∀ t ∈ fs, Simple ctx t.1 t.2.1 t.2.2) :
    ∃ body, flatLines ctx .unspecified (fs.map (·.1)) 0 = .ok body ∧
      ∀ s : Sem.Rec, Sem.evalInit "self" s body = fs.mapM (fun t => (s.get? t.2.1).map fun v => (t.2.2, v)) := by
  refine ⟨_, flatLines_simple ctx fs hv (fun _ => hpost) hs, fun s => ?_⟩
  simp only [hk, simpleLine]
  exact evalInit_tokLines "self" s fs (·.2.2) (·.2.1)

/-- C01 (values, IntoExisting): running the emitted assignments against an existing counterpart record `other` leaves a
    record in which every designated member `x` holds the value of its member `n` (when no two members designate the
    same `x`), and **every other member of `other` keeps the value it had** — for every number of members -/
theorem C01_value_existing (ctx : ImplContext) (fs : List (Field × String × String))
    (hk : ctx.kind.cls = .existing) (hv : ctx.isVariant = false) (hs : ∀ t ∈ fs, Simple ctx t.1 t.2.1 t.2.2) :
    ∃ body, flatLines ctx .unspecified (fs.map (·.1)) 0 = .ok body ∧
      ∀ (s other : Sem.Rec), (∀ t ∈ fs, (s.get? t.2.1).isSome) →
        ∃ r, Sem.execBody "self" s body other = some r ∧
          (∀ k, k ∉ fs.map (·.2.2) → Sem.Rec.get? r k = Sem.Rec.get? other k) ∧
          ((fs.map (·.2.2)).Nodup → ∀ t ∈ fs, Sem.Rec.get? r t.2.2 = s.get? t.2.1) := by
  refine ⟨_, flatLines_simple ctx fs hv (by simp [hk]) hs, fun s other hdef => ?_⟩
  simp only [hk, simpleLine]
  rw [Sem.execBody, parseAssigns_tok "self" (·.2.2) (·.2.1) fs _ (Nat.lt_succ_self _)]
  exact execAssigns_spec "self" s fs (·.2.2) (·.2.1) other hdef

/-- C01 (values, round trip): when no two members designate the same counterpart member, converting into the
    counterpart and back gives every member its own value again — `from (into s) = s` on the mapped members, for
    every number of members, every renaming and every record `s` that has those members. (`ps` pairs each member `n`
    with its designated counterpart member `x`; the two `mapM`s are the meanings of the Into and From bodies given by
    `C01_value_into` / `C01_value_from`.) -/
theorem C01_value_roundtrip (ps : List (String × String)) (s : Sem.Rec) (hinj : (ps.map (·.2)).Nodup)
    (hdef : ∀ p ∈ ps, (s.get? p.1).isSome) :
    ∃ r, ps.mapM (fun p => (s.get? p.1).map fun v => (p.2, v)) = some r ∧
      ps.mapM (fun p => (Sem.Rec.get? r p.2).map fun v => (p.1, v)) = ps.mapM (fun p => (s.get? p.1).map fun v => (p.1, v)) := by
  obtain ⟨r, hr⟩ := mapM_isSome (fun p => (s.get? p.1).map fun v => (p.2, v)) ps (by simpa using hdef)
  refine ⟨r, hr, mapM_congr_mem _ _ ps fun p hp => ?_⟩
  rw [mapM_get ps r hr hinj p hp]

/-- non-vacuity: a member without any instruction is `Simple` in an owned From conversion, and the reading of a two-line
    body on a concrete record -/
example (ctx : ImplContext) (hk : ctx.kind = .fromOwned) :
    Simple ctx { attrs := {}, idx := 0, member := .named "a", memberStr := "a", ty := none } "a" "a" := by
  constructor
  · rfl
  · simp [MemberAttrs.child, findDedicatedOrDefault]
  · simp [fieldSkipped, hk, Kind.isFrom, ghostNoDefault, MemberAttrs.ghost, findDedicatedOrDefault]
  · left
    simp [MemberAttrs.applicableAttr, MemberAttrs.ghost, MemberAttrs.fieldAttrCore, MemberAttrs.fieldAttr, MemberAttrs.iterForKind, MemberAttrs.hasParentAttr,
      findDedicatedOrDefault, hk]

example : Sem.evalInit "value" [("x", 1), ("y", 2)] (tokLine "a" "value" "x" ++ tokLine "b" "value" "y") = some [("a", 1), ("b", 2)] := by
  decide +kernel

end O2o
