/-
C03 — flattened (child/parent) mappings are faithful; each nested struct is built once.
-/
import O2oModel.Lemmas.TreeN
import O2oModel.Lemmas.Members
import O2oModel.Props.C01
namespace O2o

/-- C03-2 (From side): a field marked `#[child(a.b)]` is read from `value.a.b.<field>` (named counterpart, default
    mapping) — any path depth -/
theorem C03_from_paths (f : Field) (ctx : ImplContext) (n : String) (idx : Nat) (ca : ChildAttr)
    (hm : f.member = .named n) (hk : ctx.kind.cls = .from_) (hc : f.attrs.child ctx.ty = some ca)
    (ha : f.attrs.applicableAttr ctx.kind ctx.fallible ctx.ty = none) (hpar : f.attrs.hasParentAttr ctx.ty = false)
    (hv : ctx.isVariant = false) :
    renderStructLine f ctx .unspecified idx none =
      .ok ([Tok.ident n, .punct ':' false] ++ srcIdent ctx.kind ++ [Tok.punct '.' false] ++ memberPathTS ca.childPath.path ++ [Tok.punct '.' false, .ident n, .punct ',' false]) := by
  -- a cell of the default line: `Spec.counterpartPath` puts the child path first
  rw [defaultLine_named hm idx ha (fun _ => hpar) hv (by simp [hk])]
  simp [Spec.defaultLine, Spec.counterpartPath, Spec.counterpartMember, hm, hk, hc, Member.toTS, i, dot, colon, comma]

/-- C03-2 (into_existing): the same field is written to `other.a.b.<field>` -/
theorem C03_existing_paths (f : Field) (ctx : ImplContext) (n : String) (idx : Nat) (ca : ChildAttr)
    (hm : f.member = .named n) (hk : ctx.kind.cls = .existing) (hc : f.attrs.child ctx.ty = some ca)
    (ha : f.attrs.applicableAttr ctx.kind ctx.fallible ctx.ty = none) (hv : ctx.isVariant = false) :
    renderStructLine f ctx .unspecified idx none =
      .ok ([Tok.ident "other", .punct '.' false] ++ memberPathTS ca.childPath.path ++ [Tok.punct '.' false, .ident n, .punct '=' false] ++
           srcIdent ctx.kind ++ [Tok.punct '.' false, .ident n, .punct ';' false]) := by
  rw [defaultLine_named hm idx ha (by simp [hk]) hv (by simp [hk])]
  simp [Spec.defaultLine, Spec.counterpartPath, hm, hk, hc, Member.toTS, i, dot, eq, semi]

/-- C03-3 (bare `#[parent]`, From side): the member is produced from the whole counterpart, by reference, through the
    nested conversion of the matching fallibility -/
theorem C03_parent_bare_from (f : Field) (ctx : ImplContext) (n : String) (idx : Nat)
    (hm : f.member = .named n) (hk : ctx.kind.cls = .from_)
    (ha : f.attrs.applicableAttr ctx.kind ctx.fallible ctx.ty = none) (hpar : f.attrs.hasParentAttr ctx.ty = true) :
    renderStructLine f ctx .unspecified idx none = .ok ([Tok.ident n, .punct ':' false] ++ parentConv ctx) := by
  unfold renderStructLine
  simp [hm, hk, ha, hpar, pure, Except.pure, i, colon]

/-- the four forms of that conversion -/
theorem C03_parent_conv_forms (ctx : ImplContext) :
    parentConv ctx = (match ctx.kind.isRef, ctx.fallible with
      | true, true => [Tok.ident "value", .punct '.' false, .ident "try_into", .group .paren [], .punct '?' false, .punct ',' false]
      | true, false => [Tok.ident "value", .punct '.' false, .ident "into", .group .paren [], .punct ',' false]
      | false, true => [Tok.group .paren [.punct '&' false, .ident "value"], .punct '.' false, .ident "try_into", .group .paren [], .punct '?' false, .punct ',' false]
      | false, false => [Tok.group .paren [.punct '&' false, .ident "value"], .punct '.' false, .ident "into", .group .paren [], .punct ',' false]) := by
  unfold parentConv
  cases ctx.kind.isRef <;> cases ctx.fallible <;> rfl

/-- C03-3 (bare `#[parent]`, Into side): the member is poured into the counterpart through its own
    (try_)into_existing, one statement per bare parent, for each of the eight Into / IntoExisting flavours -/
theorem C03_parent_bare_into (f : Field) (ctx : ImplContext) (h : ctx.kind.isFrom = false) :
    ∃ recv target call q, renderParent f ctx = .ok (recv ++ [Tok.punct '.' false, .ident call, .group .paren target] ++ q ++ [Tok.punct ';' false]) ∧
      (call = if ctx.fallible then "try_into_existing" else "into_existing") ∧
      (q = if ctx.fallible then [Tok.punct '?' false] else []) ∧
      (target = if ctx.kind.isIntoExisting then [Tok.ident "other"] else [Tok.punct '&' false, .ident "mut", .ident "obj"]) ∧
      (recv = if ctx.kind.isRef then [Tok.group .paren [.punct '&' false, .group .paren ([Tok.ident "self", .punct '.' false] ++ f.member.toTS)]]
              else [Tok.ident "self", .punct '.' false] ++ f.member.toTS) := by
  refine ⟨_, _, _, _, ?_, rfl, rfl, rfl, rfl⟩
  unfold renderParent
  cases hk : ctx.kind <;> cases hf : ctx.fallible <;> first
    | (rw [hk] at h; exact absurd h (by decide))
    | simp [skel, Gen.tmpl_render_parent, Gen.Tm.instList, Gen.Tm.inst, List.getD, Kind.isIntoExisting, Kind.isRef]

/-! ### the ordering step: grouping by first-seen path and sorting is a stable permutation -/

/-- C03 (no member lost, none duplicated by the sort): the sorted member list is a permutation of the grouped one -/
theorem C03_sort_perm (xs : List FieldContainer) : List.Perm (sortByGr xs) xs := sortByGr_perm xs

def sortedByGr : List FieldContainer → Bool
  | [] => true
  | [_] => true
  | x :: y :: rest => x.grIdx ≤ y.grIdx && sortedByGr (y :: rest)

theorem insertByGr_sorted (x : FieldContainer) (xs : List FieldContainer) (h : sortedByGr xs = true) :
    sortedByGr (insertByGr x xs) = true := by
  induction xs with
  | nil => rfl
  | cons y ys ih =>
    unfold insertByGr
    split
    next hle => simp [sortedByGr, hle, h]
    next hgt =>
      have hyx : y.grIdx ≤ x.grIdx := by omega
      cases ys with
      | nil => simp [insertByGr, sortedByGr, hyx]
      | cons z zs =>
        simp only [sortedByGr, Bool.and_eq_true, decide_eq_true_eq] at h
        have ih' := ih h.2
        unfold insertByGr at ih' ⊢
        split
        next hxz =>
          simp only [sortedByGr, Bool.and_eq_true, decide_eq_true_eq]
          exact ⟨hyx, hxz, h.2⟩
        next hxz =>
          simp only [hxz, if_false] at ih'
          simp only [sortedByGr, Bool.and_eq_true, decide_eq_true_eq]
          exact ⟨h.1, ih'⟩

/-- C03 (groups are contiguous after the sort): members are ordered by the index of the group their full path opened -/
theorem C03_sort_sorted (xs : List FieldContainer) : sortedByGr (sortByGr xs) = true :=
  List.foldrRecOn (motive := fun l => sortedByGr l = true) xs insertByGr rfl fun l hl x _ => insertByGr_sorted x l hl

/-- C03-1 for trees of depth ≤ 1, **any number of members and of children**: when the sorted member list is a sequence
    of well-formed segments (a member that is not flattened, or *all* members of one child — which is what sorting by
    group index yields for depth-1 paths: equal paths share a group), the Into body is `segmentsSpec`: one fragment per
    segment in order, and a child segment is exactly one construction `name: Type { one line per member of that child,
    its ghosts, ..update },`. Hence every intermediate struct is constructed exactly once and receives all and only its
    own members.  (For deeper trees the statement is false of the code when sibling subtrees are interleaved — listed
    known finding C03-interleaved-sibling-subtrees — and is not proved in general.) -/
theorem C03_once_depth1 (ctx : ImplContext) (named : Bool) (hint : TypeHint)
    (hk : ctx.kind.cls = .into) (cpa : ChildParentsAttr) (hcpa : ctx.input.attrs.childParentsAttr ctx.ty = some cpa)
    (nr : Bool) (hnr : ctx.input.namedFields = .ok nr) (segs : List Segment) (fuel : Nat) (frags : TS) (idx : Nat)
    (hf : totalSize segs + 8 < fuel) (hwf : segmentsWf ctx cpa segs) :
    structInitLoop fuel (segs.flatMap Segment.containers) named ctx none hint frags idx =
      (match segmentsSpec ctx nr hint segs idx with
       | .ok ts => .ok (frags ++ ts, [])
       | .error e => .error e) :=
  structInitLoop_segments ctx named hint hk cpa hcpa nr hnr segs fuel frags idx hf hwf

/-- C03-2 (shape agreement): a `from` conversion renders a flattened member by the shape that `#[child_parents(..)]`
    gives for the member's own nested struct — the same entry (`find?` by the full path) whose shape the `into`
    direction uses when it builds that nested struct (`renderChildFragment`), whatever the counterpart's own hint -/
theorem C03_from_uses_child_shape (ctx : ImplContext) (ca : ChildAttr) (h : TypeHint) (cpa : ChildParentsAttr) (cd : ChildParentData)
    (hk : ctx.kind.isFrom = true) (hcpa : ctx.input.attrs.childParentsAttr ctx.ty = some cpa)
    (hfind : cpa.childParents.find? (fun cd => cd.fieldPathStr == ca.childPath.strs.getLast?.getD "") = some cd) :
    childLineHint ctx ca h = cd.typeHint := by
  simp [childLineHint, hk, hcpa, hfind]

/-- the other directions keep the hint of the block being built -/
theorem C03_into_keeps_block_shape (ctx : ImplContext) (ca : ChildAttr) (h : TypeHint) (hk : ctx.kind.isFrom = false) :
    childLineHint ctx ca h = h := by simp [childLineHint, hk]

/-- inside a child, members are consumed one line each, in order, and the loop hands the first foreign member back -/
theorem C03_child_members_all_and_only (ctx : ImplContext) (named : Bool) (cp : ChildPath) (crc : Option ChildRenderContext) (d : Nat)
    (pfx : String) (hpfx : cp.getStr (some d) = .ok pfx) (hint : TypeHint) (hk : ctx.kind.isFrom = false)
    (block : List (FieldContainer × Field)) (rest : List FieldContainer) (fuel : Nat) (frags : TS) (idx : Nat)
    (hf : block.length + 1 < fuel) (hb : ∀ p ∈ block, AtLeaf ctx pfx d p)
    (hrest : rest = [] ∨ ∃ fc rs, rest = fc :: rs ∧ pathMatches fc.path pfx = false) :
    structInitLoop fuel (block.map (·.1) ++ rest) named ctx (some (cp, crc, d)) hint frags idx =
      (match flatLines ctx hint (block.map (·.2)) idx with
       | .ok ls => .ok (frags ++ ls, rest)
       | .error e => .error e) :=
  loop_leaf_block (lvl := some (cp, crc, d)) (Or.inr hk) (·.1) (·.2) named hint ⟨pfx, hpfx, hrest⟩ block fuel frags
    idx (by omega) (fun p hp => (hb p hp).leafAt hpfx)

/-- **C03-1, any depth, any number of members and nested structs.** When the sorted member list forms a tree —
    `NodeList.WF`: every member rendered at a level sits exactly at that level; every nested struct starts with a
    contributing member whose `#[child(..)]` path goes deeper, is listed in `#[child_parents(..)]`, holds the nodes of
    its own level, and is followed by a member that does not belong to it (its members are contiguous) — the Into body
    is `NodeList.spec`: one fragment per node in order, and a nested struct is exactly **one** construction
    `name: Type { fragments of its own nodes, its ghosts, ..update },`, recursively. So every intermediate struct is
    constructed exactly once and receives all and only its own members, at every depth. (When sibling subtrees are
    interleaved the member list is *not* such a tree and the statement is false of the code — known finding
    C03-interleaved-sibling-subtrees.) -/
theorem C03_once_any_depth (ctx : ImplContext) (named : Bool) (hint : TypeHint)
    (hk : ctx.kind.cls = .into) (cpa : ChildParentsAttr) (hcpa : ctx.input.attrs.childParentsAttr ctx.ty = some cpa)
    (nr : Bool) (hnr : ctx.input.namedFields = .ok nr) (ns : NodeList) (fuel : Nat) (frags : TS) (idx : Nat)
    (hf : ns.weight + 1 < fuel) (hwf : NodeList.WF ctx cpa none none ns) :
    structInitLoop fuel ns.flatten named ctx none hint frags idx =
      (match NodeList.spec ctx nr none hint ns idx with
       | .ok ts => .ok (frags ++ ts, [])
       | .error e => .error e) := by
  have := loop_nodes ctx hk cpa hcpa nr hnr ns named none hint [] fuel frags idx hf hwf rfl
  rwa [List.append_nil] at this

/-- **C03-1, IntoExisting, any depth**: over a member tree (`NodeList.WF`) the IntoExisting body is `NodeList.specE` — for
    every contributing member exactly one assignment, in list order (a leaf's line is `render_struct_line` of that
    member, which `C03_existing_paths` shows to be `other.<child path>.<member> = ..;`), and after the members of each
    nested struct the ghost assignments addressed to exactly that struct. No member is assigned twice, none is left out -/
theorem C03_existing_any_depth (ctx : ImplContext) (named : Bool) (hint : TypeHint)
    (hk : ctx.kind.cls = .existing) (cpa : ChildParentsAttr) (hcpa : ctx.input.attrs.childParentsAttr ctx.ty = some cpa)
    (nr : Bool) (hnr : ctx.input.namedFields = .ok nr) (ns : NodeList) (fuel : Nat) (frags : TS) (idx : Nat)
    (hf : ns.weight + 1 < fuel) (hwf : NodeList.WF ctx cpa none none ns) :
    structInitLoop fuel ns.flatten named ctx none hint frags idx =
      (match NodeList.specE ctx nr none hint ns idx with
       | .ok ts => .ok (frags ++ ts, [])
       | .error e => .error e) := by
  have := loop_nodes_existing ctx hk cpa hcpa nr hnr ns named none hint [] fuel frags idx hf hwf rfl
  rwa [List.append_nil] at this

/-- non-vacuity: the two-level tree `a { a.b { f1 }, f2 }` is well formed as soon as the members carry those paths -/
example (ctx : ImplContext) (cpa : ChildParentsAttr) (fc1 fc2 : FieldContainer) (f1 f2 : Field) (ca1 ca2 : ChildAttr)
    (cdA cdAB : ChildParentData)
    (h1 : f1.attrs.child ctx.ty = some ca1) (hs1 : ca1.childPath.strs = ["a", "a.b"]) (p1 : fc1.path = "a.b")
    (fd1 : fc1.fieldData = .field f1) (ns1 : fieldSkipped ctx f1 = false)
    (h2 : f2.attrs.child ctx.ty = some ca2) (hs2 : ca2.childPath.strs = ["a"]) (p2 : fc2.path = "a") (fd2 : fc2.fieldData = .field f2)
    (hfA : cpa.childParents.find? (fun cd => cd.fieldPathStr == "a") = some cdA)
    (hfAB : cpa.childParents.find? (fun cd => cd.fieldPathStr == "a.b") = some cdAB)
    (hm1 : pathMatches "a.b" "a" = true) (hm2 : pathMatches "a" "a.b" = false) :
    NodeList.WF ctx cpa none none
      (.cons (.sub (.cons (.sub (.cons (.leaf fc1 f1) .nil) cdAB) (.cons (.leaf fc2 f2) .nil)) cdA) .nil) := by
  have g0 : ca1.childPath.getStr (some 0) = .ok "a" := by simp [ChildPath.getStr, hs1]
  have g1 : ca1.childPath.getStr (some 1) = .ok "a.b" := by simp [ChildPath.getStr, hs1]
  refine ⟨trivial, ⟨(fc1, f1), ca1, "a", rfl, fd1, h1, ns1, trivial, g0, hfA, ?_, ?_⟩, trivial⟩
  · intro fc h; simp [afterOf, NodeList.flatten] at h
  · refine ⟨⟨"a", (fc1, f1), g0, rfl, by simpa [p1] using hm1⟩, ?_, ?_⟩
    · refine ⟨(fc1, f1), ca1, "a.b", rfl, fd1, h1, ns1, by simp [hs1], g1, hfAB, ?_, ?_⟩
      · intro fc h
        simp [afterOf, NodeList.flatten, Node.flatten] at h
        subst h; simpa [p2] using hm2
      · refine ⟨⟨"a.b", (fc1, f1), g1, rfl, by simp [p1, pathMatches]⟩, ?_, trivial⟩
        exact ⟨fd1, "a.b", ca1, g1, p1, h1, by simp [hs1, newDepthOf]⟩
    · refine ⟨⟨"a", (fc2, f2), g0, rfl, by simp [p2, pathMatches]⟩, ?_, trivial⟩
      exact ⟨fd2, "a", ca2, g0, p2, h2, by simp [hs2, newDepthOf]⟩

end O2o
