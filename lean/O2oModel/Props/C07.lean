/-
C07 — owned, by-reference, fallible and into-existing flavours of a mapping agree.
Syntactic agreement theorems on the model, and for the plain fragment the value theorems under the record reading of
`O2oModel/Sem.lean` (`C07_same_lines`, `C07_value_into_vs_existing`); beyond that the runtime half (values) is sampled
by the correspondence check only through token equality of the generated bodies — stated in the evidence assumptions.
-/
import O2oModel.Props.C01
namespace O2o

theorem mainCodeBlockOk_eq (ctx : ImplContext) (hq : ctx.structAttr.quickReturn = none) :
    mainCodeBlockOk ctx = mainCodeBlock ctx >>= fun inner =>
      if ctx.hasPostInit then pure inner else pure (skel Gen.tmpl_main_code_block_ok 1 [("inner", inner)]) := by
  unfold mainCodeBlockOk mainCodeBlock
  simp only [hq]

/-- C07-2 (try vs plain, body): for one and the same context the fallible body is `Ok(<plain body>)` — the plumbing
    is shared, only the wrapper differs (no post-init, no quick return) -/
theorem C07_try_wraps_plain (ctx : ImplContext) (hq : ctx.structAttr.quickReturn = none) (hp : ctx.hasPostInit = false) :
    mainCodeBlockOk ctx = (mainCodeBlock ctx).map fun inner => [Tok.ident "Ok", Tok.group .paren inner] := by
  rw [mainCodeBlockOk_eq ctx hq, hp]
  cases mainCodeBlock ctx <;>
    simp [bind, Except.bind, pure, Except.pure, Except.map, skel, Gen.tmpl_main_code_block_ok, Gen.Tm.instList, Gen.Tm.inst, List.getD]

/-- with a bare `#[parent]` (post-init dialect) the fallible body is the plain statement list; `Ok(obj)` is added by
    the skeleton (C17_into_bodies) -/
theorem C07_try_post_init (ctx : ImplContext) (hq : ctx.structAttr.quickReturn = none) (hp : ctx.hasPostInit = true) :
    mainCodeBlockOk ctx = mainCodeBlock ctx := by
  rw [mainCodeBlockOk_eq ctx hq, hp]
  cases mainCodeBlock ctx <;> rfl

/-- the statement skeleton of one `quote!` body: which pieces are spliced in, in which order (the error type apart) -/
def bodyOrder (t : List (List Gen.Tm)) : List (List String) := t.map fun b => (Gen.Tm.holesList b).filter (· != "err_ty")

/-- C07-2 (try vs plain, skeletons; *table*, regenerated): each fallible skeleton splices exactly the same pieces in
    exactly the same order as its infallible twin, in every dialect (plain / post-init) — so the same member
    assignments, parent calls, `vars` and attributes run in the same order whether or not the conversion is fallible -/
theorem C07_fallible_same_statement_order :
    (bodyOrder Gen.tmpl_quote_try_from_trait == bodyOrder Gen.tmpl_quote_from_trait
      && bodyOrder Gen.tmpl_quote_try_into_trait == bodyOrder Gen.tmpl_quote_into_trait
      && bodyOrder Gen.tmpl_quote_try_into_existing_trait == bodyOrder Gen.tmpl_quote_into_existing_trait) = true := by decide +kernel

/-- non-vacuity: the post-init dialect of `Into` really splices `init` before `post_init` -/
example : (bodyOrder Gen.tmpl_quote_into_trait).head? = some ["pre_init", "dst", "those_gens", "init", "post_init"] := by decide +kernel

/-- the instruction names that say neither `owned` nor `ref` -/
def flavourNeutralNames : List String :=
  ["map", "from", "into", "into_existing", "try_map", "try_from", "try_into", "try_into_existing"]

/-- C07 (*tables*, regenerated): wherever an applicability vector is filled — type level, member level and the nested
    `[..]` instructions of a parameterised `#[parent(..)]` — an instruction whose name says neither `owned` nor `ref`
    applies to the by-reference flavour of a conversion exactly when it applies to the owned one: one written
    mapping serves both, in Into, From and IntoExisting alike -/
theorem C07_owned_ref_same_instructions :
    ((Gen.nestedAppl :: ((Gen.typeArms ++ Gen.memberArms).filter (fun a => match a.kind with | .map _ => true | _ => false)).map (·.appl)).all fun v =>
      flavourNeutralNames.all fun n =>
        let A := applOf v n
        A.get .ownedInto == A.get .refInto && A.get .fromOwned == A.get .fromRef
          && A.get .ownedIntoExisting == A.get .refIntoExisting) = true := by decide +kernel

/-- non-vacuity: the nested vector is there and `into_existing` does apply to both IntoExisting flavours -/
example : (applOf Gen.nestedAppl "into_existing").get .ownedIntoExisting = true
    ∧ (applOf Gen.nestedAppl "into_existing").get .refIntoExisting = true := by decide +kernel

/-- the source object named by the generated code depends only on the direction, not on owned / by-ref / fallible -/
theorem C07_same_source_object (k k' : Kind) (h : k.isFrom = k'.isFrom) : srcIdent k = srcIdent k' := by
  unfold srcIdent; rw [h]

/-- owned and by-reference kinds of one direction are in the same class: every `match` of the expander on the kind
    class takes the same arm for them -/
theorem C07_ref_owned_same_class :
    Kind.fromOwned.cls = Kind.fromRef.cls ∧ Kind.ownedInto.cls = Kind.refInto.cls ∧ Kind.ownedIntoExisting.cls = Kind.refIntoExisting.cls := by
  decide

/-- C07-3 (existing vs into, one line, default mapping): for a named member without instructions `into` emits
    `name: self.name,` and `into_existing` emits `other.name = self.name;` — same right-hand side, same slot -/
theorem C07_existing_vs_into_default (f : Field) (ctx ctx' : ImplContext) (name : String) (idx : Nat)
    (hm : f.member = .named name) (hk : ctx.kind.cls = .into) (hk' : ctx'.kind.cls = .existing)
    (ha : f.attrs.applicableAttr ctx.kind ctx.fallible ctx.ty = none) (ha' : f.attrs.applicableAttr ctx'.kind ctx'.fallible ctx'.ty = none)
    (hc : f.attrs.child ctx'.ty = none) (hp : ctx.hasPostInit = false) (hv : ctx.isVariant = false) (hv' : ctx'.isVariant = false) :
    renderStructLine f ctx .unspecified idx none = .ok ([Tok.ident name, .punct ':' false, .ident "self", .punct '.' false, .ident name, .punct ',' false]) ∧
    renderStructLine f ctx' .unspecified idx none = .ok ([Tok.ident "other", .punct '.' false, .ident name, .punct '=' false, .ident "self", .punct '.' false, .ident name, .punct ';' false]) := by
  -- two cells of the default line
  rw [defaultLine_named hm idx ha (by simp [hk]) hv (fun _ => hp), defaultLine_named hm idx ha' (by simp [hk']) hv' (by simp [hk'])]
  simp [Spec.defaultLine, Spec.counterpartPath, hk, hk', hm, hc, srcIdent_eq, cls_into_not_from hk, cls_not_from (Or.inr hk'),
    Member.toTS, i, p, dot, colon, comma, eq, semi]

/-- C07 (owned vs by-reference, any flavour): two contexts of the same direction in which every member is mapped
    plainly to the same counterpart member (`Simple`: default or rename, as decided by the instructions that apply to
    *that* flavour) emit token-identical member lines — hence deliver the same values. Any number of members. -/
theorem C07_same_lines (ctx ctx' : ImplContext) (fs : List (Field × String × String))
    (hk : ctx.kind.cls = ctx'.kind.cls) (hv : ctx.isVariant = false) (hv' : ctx'.isVariant = false)
    (hpost : ctx.hasPostInit = false) (hpost' : ctx'.hasPostInit = false)
    (hs : ∀ t ∈ fs, Simple ctx t.1 t.2.1 t.2.2) (hs' : ∀ t ∈ fs, Simple ctx' t.1 t.2.1 t.2.2) :
    ∃ body, flatLines ctx .unspecified (fs.map (·.1)) 0 = .ok body ∧ flatLines ctx' .unspecified (fs.map (·.1)) 0 = .ok body :=
  ⟨_, flatLines_simple ctx fs hv (fun _ => hpost) hs, hk ▸ flatLines_simple ctx' fs hv' (fun _ => hpost') hs'⟩

/-- C07 (Into vs IntoExisting, values): the record built by `into` and the record left by `into_existing` — whatever
    the existing record held before — agree on every designated member: both hold the value of the member mapped to it -/
theorem C07_value_into_vs_existing (ctxI ctxE : ImplContext) (fs : List (Field × String × String))
    (hkI : ctxI.kind.cls = .into) (hkE : ctxE.kind.cls = .existing) (hvI : ctxI.isVariant = false) (hvE : ctxE.isVariant = false)
    (hpost : ctxI.hasPostInit = false)
    (hsI : ∀ t ∈ fs, Simple ctxI t.1 t.2.1 t.2.2) (hsE : ∀ t ∈ fs, Simple ctxE t.1 t.2.1 t.2.2)
    (hnd : (fs.map (·.2.2)).Nodup) :
    ∃ bI bE, flatLines ctxI .unspecified (fs.map (·.1)) 0 = .ok bI ∧ flatLines ctxE .unspecified (fs.map (·.1)) 0 = .ok bE ∧
      ∀ (s other : Sem.Rec), (∀ t ∈ fs, (s.get? t.2.1).isSome) →
        ∃ r1 r2, Sem.evalInit "self" s bI = some r1 ∧ Sem.execBody "self" s bE other = some r2 ∧
          ∀ t ∈ fs, Sem.Rec.get? r1 t.2.2 = Sem.Rec.get? r2 t.2.2 := by
  obtain ⟨bI, hbI, hI⟩ := C01_value_into ctxI fs hkI hvI hpost hsI
  obtain ⟨bE, hbE, hE⟩ := C01_value_existing ctxE fs hkE hvE hsE
  refine ⟨bI, bE, hbI, hbE, fun s other hdef => ?_⟩
  obtain ⟨r2, hr2, _, hin⟩ := hE s other hdef
  obtain ⟨r1, hr1⟩ := mapM_isSome (fun t => (s.get? t.2.1).map fun v => (t.2.2, v)) fs (by simpa using hdef)
  refine ⟨r1, r2, (hI s).trans hr1, hr2, fun t ht => ?_⟩
  rw [mapM_get fs r1 hr1 hnd t ht, hin hnd t ht]

end O2o
