/-
C16 — what the attribute parser establishes about the input it accepts. `pathsWF`, the hypothesis of
`C16_validated_only_findings`: every child path comes from `ChildPath.ofMembers` on a non-empty member path; the values
are followed through the parser monad (`PostP`), the instruction lists, the assembling loops and the repeat-merging of
members. `shapeWF`: named-field containers keep their named members.
-/
import O2oModel.Lemmas.NoPanic
import O2oModel.WF
namespace O2o

theorem buildChildPathStr_length (ms : List Member) (acc : List String) :
    (buildChildPathStr ms acc).length = ms.length + acc.length := by
  induction ms generalizing acc with
  | nil => simp [buildChildPathStr]
  | cons m rest ih =>
    cases acc with
    | nil => simp [buildChildPathStr, ih]
    | cons a as => simp [buildChildPathStr, ih]; omega

/-- a child path as the parser builds it: one printed prefix per level, at least one level -/
def ChildPath.WF (cp : ChildPath) : Prop := cp.strs.length = cp.path.length ∧ cp.path ≠ []

theorem ofMembers_WF (m : Member) (ms : List Member) : (ChildPath.ofMembers (m :: ms)).WF := by
  refine ⟨?_, by simp [ChildPath.ofMembers]⟩
  simp [ChildPath.ofMembers, buildChildPathStr_length]

theorem WF_pos (cp : ChildPath) (h : cp.WF) : 0 < cp.strs.length := by
  rw [h.1]
  exact List.length_pos_iff.mpr h.2

theorem wf_iff (cp : ChildPath) : cp.wf = true ↔ cp.WF := by
  simp [ChildPath.wf, ChildPath.WF]

/-- every value the parser can return satisfies `Q`, whatever the state it runs in -/
def PostP {α : Type} (Q : α → Prop) (p : P α) : Prop := ∀ st a st', p st = .ok (a, st') → Q a

theorem PostP.pure {α : Type} {Q : α → Prop} {a : α} (h : Q a) : PostP Q (pure a : P α) := by
  intro st b st' hb
  cases hb
  exact h

theorem PostP.bind {α β : Type} {R : α → Prop} {Q : β → Prop} {x : P α} {f : α → P β}
    (hx : PostP R x) (hf : ∀ a, R a → PostP Q (f a)) : PostP Q (x >>= f) := by
  intro st b st' hb
  change StateT.bind x f st = _ at hb
  unfold StateT.bind at hb
  cases hxs : x st with
  | error e => rw [hxs] at hb; cases hb
  | ok r =>
    obtain ⟨a, st1⟩ := r
    rw [hxs] at hb
    exact hf a (hx st a st1 hxs) st1 b st' hb

theorem PostP.bind_any {α β : Type} {Q : β → Prop} {x : P α} {f : α → P β} (hf : ∀ a, PostP Q (f a)) : PostP Q (x >>= f) :=
  PostP.bind (R := fun _ => True) (fun _ _ _ _ => trivial) fun a _ => hf a

theorem PostP.mono {α : Type} (R Q : α → Prop) (p : P α) (h : PostP R p) (hrq : ∀ a, R a → Q a) : PostP Q p :=
  fun st a st' ha => hrq a (h st a st' ha)

theorem PostP.ite {α : Type} (Q : α → Prop) (c : Prop) [Decidable c] (p q : P α) (hp : PostP Q p) (hq : PostP Q q) :
    PostP Q (if c then p else q) := by
  split
  · exact hp
  · exact hq

theorem Post.of_parse2 {α : Type} {Q : α → Prop} {p : P α} {ts : TS} (h : PostP Q p) : Post Q (parse2 p ts) := by
  intro a ha
  unfold parse2 at ha
  split at ha
  · cases ha
  · rename_i a' s hs
    split at ha
    · cases ha
    · cases ha
      exact h _ _ _ hs

theorem parseInput_post (Q : DataType → Prop) (b : Back) (node : RawInput)
    (hS : ∀ data, node.body = .struct data → Post (fun s => Q (.struct s)) (Struct.fromSyn b node data))
    (hE : ∀ vs, node.body = .enum vs → Post (fun e => Q (.enum e)) (Enum.fromSyn b node vs))
    (input : DataType) (h : parseInput b node = some input) : Q input := by
  unfold parseInput at h
  split at h
  · split at h
    · cases h; exact hS _ ‹_› _ ‹_›
    · cases h
  · split at h
    · cases h; exact hE _ ‹_› _ ‹_›
    · cases h
  · cases h

theorem parseMemberPathAux_nonempty (b : Back) : ∀ (fuel : Nat) (acc : List Member), (0 < fuel ∨ acc ≠ []) →
    PostP (fun ms => ms ≠ []) (parseMemberPathAux b fuel acc) := by
  intro fuel
  induction fuel with
  | zero =>
    intro acc h
    rcases h with h | h
    · cases h
    · unfold parseMemberPathAux
      exact PostP.pure (by simpa using h)
  | succ fuel ih =>
    intro acc _
    unfold parseMemberPathAux
    refine PostP.bind_any (fun m => PostP.bind_any (fun c => ?_))
    split
    · exact PostP.bind_any (fun _ => ih (m :: acc) (Or.inr (by simp)))
    · exact PostP.pure (by simp)

theorem parseMemberPath_nonempty (b : Back) : PostP (fun ms => ms ≠ []) (parseMemberPath b) := by
  unfold parseMemberPath
  exact PostP.bind_any (fun ts => parseMemberPathAux_nonempty b _ _ (Or.inl (Nat.succ_pos _)))

theorem ofMembers_wf (ms : List Member) (h : ms ≠ []) : (ChildPath.ofMembers ms).wf = true := by
  cases ms with
  | nil => exact absurd rfl h
  | cons m rest => exact (wf_iff _).mpr (ofMembers_WF m rest)

theorem parseChildAttr_wf (b : Back) : PostP (fun a => a.childPath.wf = true) (parseChildAttr b) := by
  unfold parseChildAttr
  refine PostP.bind_any (fun c => ?_)
  refine PostP.bind (parseMemberPath_nonempty b) (fun ms hms => ?_)
  exact PostP.pure (ofMembers_wf ms hms)

theorem parseTerminatedAux_all {α : Type} (Q : α → Prop) (elem : P α) (he : PostP Q elem) :
    ∀ (fuel : Nat) (acc : List α), (∀ x ∈ acc, Q x) → PostP (fun l => ∀ x ∈ l, Q x) (parseTerminatedAux elem fuel acc) := by
  intro fuel
  induction fuel with
  | zero =>
    intro acc hacc
    unfold parseTerminatedAux
    exact PostP.pure (fun x hx => hacc x (List.mem_reverse.mp hx))
  | succ fuel ih =>
    intro acc hacc
    unfold parseTerminatedAux
    refine PostP.bind_any (fun e => ?_)
    split
    · exact PostP.pure (fun x hx => hacc x (List.mem_reverse.mp hx))
    · refine PostP.bind he (fun x hx => ?_)
      have hacc' : ∀ y ∈ x :: acc, Q y := List.forall_mem_cons.mpr ⟨hx, hacc⟩
      refine PostP.bind_any (fun e2 => ?_)
      split
      · exact PostP.pure (fun y hy => hacc' y (List.mem_reverse.mp hy))
      · exact PostP.bind_any (fun _ => ih (x :: acc) hacc')

theorem parseTerminated_all {α : Type} (Q : α → Prop) (elem : P α) (he : PostP Q elem) :
    PostP (fun l => ∀ x ∈ l, Q x) (parseTerminated elem) := by
  unfold parseTerminated
  exact PostP.bind_any (fun ts => parseTerminatedAux_all Q elem he _ _ (by simp))

/-- a struct-level / variant-level ghost entry whose child path, if any, is well-formed -/
def GhostData.good (g : GhostData) : Prop := ∀ cp, g.childPath = some cp → cp.wf = true

theorem parseGhostData_good (b : Back) : PostP GhostData.good (parseGhostData b) := by
  unfold parseGhostData
  refine PostP.bind (R := fun (cpo : Option ChildPath) => ∀ cp, cpo = some cp → cp.wf = true) ?_ (fun cpo hcpo => ?_)
  · refine PostP.bind_any (fun c => ?_)
    split
    · refine PostP.bind (parseMemberPath_nonempty b) (fun ms hms => ?_)
      refine PostP.bind_any (fun _ => PostP.pure ?_)
      intro cp hcp
      cases hcp
      exact ofMembers_wf ms hms
    · exact PostP.pure (fun cp hcp => by cases hcp)
  · exact PostP.bind_any (fun gi => PostP.bind_any (fun _ => PostP.bind_any (fun a => PostP.pure hcpo)))

theorem parseStructGhostAttrCore_good (b : Back) : PostP (fun a => ∀ g ∈ a.ghostData, g.good) (parseStructGhostAttrCore b) := by
  unfold parseStructGhostAttrCore
  refine PostP.bind_any (fun c => ?_)
  exact PostP.bind (parseTerminated_all _ _ (parseGhostData_good b)) (fun gd hgd => PostP.pure hgd)

/-- the child paths a member-level instruction carries (`#[child]`, variant-level `#[ghosts]`) are well-formed -/
def GoodMI (i : MemberInstruction) : Prop :=
  match i with
  | .child a => a.childPath.wf = true
  | .ghosts a => ∀ g ∈ a.attr.ghostData, g.good
  | _ => True

/-- .. and those of a type-level instruction (`#[ghosts]`) -/
def GoodDI (i : DataTypeInstruction) : Prop :=
  match i with
  | .ghosts a => ∀ g ∈ a.attr.ghostData, g.good
  | _ => True

theorem parseMemberInstruction_good (b : Back) (instr : String) (input : TS) (own bark : Bool) :
    Post GoodMI (parseMemberInstruction b instr input own bark) := by
  unfold parseMemberInstruction
  split
  · exact Post.error
  · -- the `child` and the `ghosts` arm build what `GoodMI` speaks of; every other arm fails, or returns an instruction of
    -- which it asks nothing, at once or after a parse (the commonest form first: every arm tries them in this order)
    split
    all_goals first
      | exact Post.bind_any (fun _ => Post.pure trivial)
      | exact Post.error
      | exact Post.ok trivial
      | exact Post.bind (Post.of_parse2 (parseChildAttr_wf b)) (fun a ha => Post.pure ha)
      | exact Post.bind (Post.of_parse2 (parseStructGhostAttrCore_good b)) (fun a ha => Post.pure ha)

theorem parseDataTypeInstruction_good (b : Back) (instr : String) (input : TS) (own bark : Bool) :
    Post GoodDI (parseDataTypeInstruction b instr input own bark) := by
  unfold parseDataTypeInstruction
  split
  · exact Post.error
  · split
    all_goals first
      | exact Post.bind_any (fun _ => Post.pure trivial)
      | exact Post.error
      | exact Post.ok trivial
      | exact Post.bind (Post.of_parse2 (parseStructGhostAttrCore_good b)) (fun a ha => Post.pure ha)

theorem liftE_post {α : Type} (Q : α → Prop) (e : Except PErr α) (h : Post Q e) : PostP Q (liftE e) := by
  unfold liftE
  split
  next a => exact PostP.pure (h a rfl)
  · intro st a st' ha
    cases ha

theorem o2oElem_post {α : Type} (b : Back) (Q : α → Prop) (f : String → TS → Except PErr α) (hf : ∀ i c, Post Q (f i c)) :
    PostP Q (o2oElem b f) := by
  unfold o2oElem
  exact PostP.bind_any (fun instr => PostP.bind_any (fun c => liftE_post Q _ (hf instr c)))

theorem collectMemberInstrs_good (b : Back) (bark : Bool) : ∀ (attrs : List RawAttr) (acc : List MemberInstruction),
    (∀ i ∈ acc, GoodMI i) → Post (fun l => ∀ i ∈ l, GoodMI i) (collectMemberInstrs b bark attrs acc) := by
  intro attrs
  induction attrs with
  | nil => intro acc hacc; unfold collectMemberInstrs; exact Post.ok hacc
  | cons x rest ih =>
    intro acc hacc
    unfold collectMemberInstrs
    split
    · exact ih acc hacc
    · refine Post.bind_any (fun ts => ?_)
      refine Post.bind (Post.of_parse2 (parseTerminated_all GoodMI _
        (o2oElem_post b GoodMI _ (fun i c => parseMemberInstruction_good b i c true true)))) (fun l hl => ?_)
      exact ih _ (List.forall_mem_append.mpr ⟨hacc, hl⟩)
    · refine Post.bind_any (fun ts => ?_)
      refine Post.bind (parseMemberInstruction_good b _ ts false bark) (fun i hi => ?_)
      exact ih _ (List.forall_mem_append.mpr ⟨hacc, List.forall_mem_singleton.mpr hi⟩)
    · exact ih acc hacc

/-- the member-level attributes are well-formed: flattening paths and the paths of variant-level ghosts -/
def MemberAttrs.wfAll (a : MemberAttrs) : Prop :=
  (∀ ca ∈ a.childAttrs, ca.childPath.wf = true) ∧ (∀ ga ∈ a.ghostsAttrs, ∀ g ∈ ga.attr.ghostData, g.good)

theorem assembleMemberAttrs_wf (fieldTy : Option TS) : ∀ (instrs : List MemberInstruction) (attrs : MemberAttrs),
    (∀ i ∈ instrs, GoodMI i) → attrs.wfAll → Post MemberAttrs.wfAll (assembleMemberAttrs fieldTy instrs attrs) := by
  intro instrs
  induction instrs with
  | nil => intro attrs _ h; unfold assembleMemberAttrs; exact Post.ok h
  | cons i rest ih =>
    intro attrs hgood h
    obtain ⟨hi, hrest⟩ := List.forall_mem_cons.mp hgood
    unfold assembleMemberAttrs
    -- `wfAll` speaks of the `#[child]` and the `#[ghosts]` instructions: the other arms leave those two lists alone
    cases i with
    | child a => exact ih _ hrest ⟨List.forall_mem_append.mpr ⟨h.1, List.forall_mem_singleton.mpr hi⟩, h.2⟩
    | ghosts a => exact ih _ hrest ⟨h.1, List.forall_mem_append.mpr ⟨h.2, List.forall_mem_singleton.mpr hi⟩⟩
    | as_ a =>
      cases fieldTy with
      | some ty => exact ih _ hrest h
      | none => exact Post.error
    | _ => exact ih _ hrest h

theorem getMemberAttrs_wf (b : Back) (attrs : List RawAttr) (fieldTy : Option TS) (bark : Bool) :
    Post MemberAttrs.wfAll (getMemberAttrs b attrs fieldTy bark) := by
  unfold getMemberAttrs
  refine Post.bind (collectMemberInstrs_good b bark attrs [] (by simp)) (fun l hl => ?_)
  exact assembleMemberAttrs_wf fieldTy l {} hl ⟨by simp, by simp⟩

theorem merge_wf {self other : MemberAttrs} (hs : self.wfAll) (ho : other.wfAll) : (self.merge other).wfAll := by
  unfold MemberAttrs.merge
  split
  · exact hs
  · split
    · exact hs
    · refine ⟨?_, hs.2⟩
      simp only
      split
      · exact List.forall_mem_append.mpr ⟨hs.1, ho.1⟩
      · exact hs.1

/-- the attributes a `#[repeat]` has put aside for the members (variants) that follow are well-formed -/
def ctxWF (ctx : Context) : Prop :=
  (∀ p, ctx.fieldAttrsToRepeat = some p → p.1.wfAll) ∧ (∀ a, ctx.variantAttrsToRepeat = some a → a.wfAll)

theorem ctxWF_empty : ctxWF {} := ⟨fun _ h => (by cases h), fun _ h => (by cases h)⟩

theorem Field.fromSyn_wf (b : Back) (idx : Nat) (node : RawField) (bark : Bool) :
    Post (fun f => f.attrs.wfAll) (Field.fromSyn b idx node bark) := by
  unfold Field.fromSyn
  exact Post.bind (getMemberAttrs_wf b _ _ _) (fun a ha => Post.pure ha)

theorem multipleFromSyn_wf (b : Back) (bark : Bool) : ∀ (nodes : List RawField) (i : Nat) (ctx : Context) (acc : List Field),
    ctxWF ctx → (∀ f ∈ acc, f.attrs.wfAll) →
    Post (fun r => (∀ f ∈ r.1, f.attrs.wfAll) ∧ ctxWF r.2) (Field.multipleFromSyn b bark nodes i ctx acc) := by
  intro nodes
  induction nodes with
  | nil =>
    intro i ctx acc hctx hacc
    unfold Field.multipleFromSyn
    exact Post.ok ⟨fun f hf => hacc f (List.mem_reverse.mp hf), hctx⟩
  | cons node rest ih =>
    intro i ctx acc hctx hacc
    unfold Field.multipleFromSyn
    refine Post.bind (Field.fromSyn_wf b i node bark) (fun field hfield => ?_)
    have hacc' : ∀ f ∈ field :: acc, f.attrs.wfAll := List.forall_mem_cons.mpr ⟨hfield, hacc⟩
    simp only []
    have hctx1 : ctxWF (if field.attrs.stopRepeat = true then { ctx with fieldAttrsToRepeat := none } else ctx) := by
      split
      · exact ⟨fun p hp => (by cases hp), hctx.2⟩
      · exact hctx
    generalize (if field.attrs.stopRepeat = true then { ctx with fieldAttrsToRepeat := none } else ctx) = ctx1 at hctx1 ⊢
    split
    · split
      · exact Post.error
      · apply ih _ _ _ ?_ hacc'
        refine ⟨?_, hctx1.2⟩
        intro p hp
        cases hp
        exact hfield
    · split
      · rename_i toRepeat perm hrep
        exact ih _ _ _ hctx1 (List.forall_mem_cons.mpr ⟨merge_wf hfield (hctx1.1 _ hrep), hacc⟩)
      · exact ih _ _ _ hctx1 hacc'

theorem Variant.fromSyn_wf (b : Back) (ctx : Context) (v : RawVariant) (bark : Bool) (hctx : ctxWF ctx) :
    Post (fun r => (r.1.attrs.wfAll ∧ ∀ f ∈ r.1.fields, f.attrs.wfAll) ∧ ctxWF r.2) (Variant.fromSyn b ctx v bark) := by
  unfold Variant.fromSyn
  refine Post.bind (multipleFromSyn_wf b bark _ 0 ctx [] hctx (by simp)) (fun r hr => ?_)
  obtain ⟨fields, ctx'⟩ := r
  refine Post.bind (getMemberAttrs_wf b _ _ _) (fun a ha => ?_)
  refine Post.pure ⟨⟨ha, hr.1⟩, ?_⟩
  simp only
  split
  · split
    · exact ⟨fun p hp => (by cases hp), hr.2.2⟩
    · exact hr.2
  · exact hr.2

theorem Variant.multipleFromSyn_wf (b : Back) (bark : Bool) : ∀ (vs : List RawVariant) (ctx : Context) (acc : List Variant),
    ctxWF ctx → (∀ v ∈ acc, v.attrs.wfAll ∧ ∀ f ∈ v.fields, f.attrs.wfAll) →
    Post (fun l => ∀ v ∈ l, v.attrs.wfAll ∧ ∀ f ∈ v.fields, f.attrs.wfAll) (Variant.multipleFromSyn b bark vs ctx acc) := by
  intro vs
  induction vs with
  | nil =>
    intro ctx acc _ hacc
    unfold Variant.multipleFromSyn
    exact Post.ok (fun v hv => hacc v (List.mem_reverse.mp hv))
  | cons rv rest ih =>
    intro ctx acc hctx hacc
    unfold Variant.multipleFromSyn
    refine Post.bind (Variant.fromSyn_wf b ctx rv bark hctx) (fun r hr => ?_)
    obtain ⟨variant, ctx'⟩ := r
    simp only []
    have hctx1 : ctxWF (if variant.attrs.stopRepeat = true then { ctx' with variantAttrsToRepeat := none } else ctx') := by
      split
      · exact ⟨hr.2.1, fun a ha => (by cases ha)⟩
      · exact hr.2
    generalize (if variant.attrs.stopRepeat = true then { ctx' with variantAttrsToRepeat := none } else ctx') = ctx1 at hctx1 ⊢
    have hacc' : ∀ v ∈ variant :: acc, v.attrs.wfAll ∧ ∀ f ∈ v.fields, f.attrs.wfAll := List.forall_mem_cons.mpr ⟨hr.1, hacc⟩
    split
    · split
      · exact Post.error
      · apply ih _ _ ?_ hacc'
        exact ⟨hctx1.1, fun a ha => by cases ha; exact hr.1.1⟩
    · split
      · rename_i toRepeat hrep
        exact ih _ _ hctx1 (List.forall_mem_cons.mpr ⟨⟨merge_wf hr.1.1 (hctx1.2 _ hrep), hr.1.2⟩, hacc⟩)
      · exact ih _ _ hctx1 hacc'

theorem collectDataTypeInstrs_good (b : Back) : ∀ (attrs : List RawAttr) (acc : DTAcc),
    (∀ i ∈ acc.instrs, GoodDI i) → Post (fun r => ∀ i ∈ r.instrs, GoodDI i) (collectDataTypeInstrs b attrs acc) := by
  intro attrs
  induction attrs with
  | nil => intro acc hacc; unfold collectDataTypeInstrs; exact Post.ok hacc
  | cons x rest ih =>
    intro acc hacc
    unfold collectDataTypeInstrs
    split
    · exact ih acc hacc
    · refine Post.bind_any (fun ts => ?_)
      refine Post.bind (Post.of_parse2 (parseTerminated_all GoodDI _
        (o2oElem_post b GoodDI _ (fun i c => parseDataTypeInstruction_good b i c true true)))) (fun l hl => ?_)
      exact ih _ (List.forall_mem_append.mpr ⟨hacc, hl⟩)
    · refine Post.bind_any (fun ts => ?_)
      refine Post.bind (parseDataTypeInstruction_good b _ ts false acc.bark) (fun i hi => ?_)
      exact ih _ (List.forall_mem_append.mpr ⟨hacc, List.forall_mem_singleton.mpr hi⟩)
    · exact ih acc hacc

def DataTypeAttrs.ghostsGood (a : DataTypeAttrs) : Prop := ∀ ga ∈ a.ghostsAttrs, ∀ g ∈ ga.attr.ghostData, g.good

theorem assembleDataTypeAttrs_good : ∀ (instrs : List DataTypeInstruction) (m : RepeatMap) (attrs : DataTypeAttrs),
    (∀ i ∈ instrs, GoodDI i) → attrs.ghostsGood → Post DataTypeAttrs.ghostsGood (assembleDataTypeAttrs instrs m attrs) := by
  intro instrs
  induction instrs with
  | nil => intro m attrs _ h; unfold assembleDataTypeAttrs; exact Post.ok h
  | cons i rest ih =>
    intro m attrs hgood h
    obtain ⟨hi, hrest⟩ := List.forall_mem_cons.mp hgood
    unfold assembleDataTypeAttrs
    split
    · -- a trait instruction: the ghosts are untouched
      simp only []
      repeat' split
      all_goals first
        | exact Post.error
        | exact ih _ _ hrest h
        | exact Post.bind_any (fun _ => ih _ _ hrest h)
    · exact ih _ _ hrest (List.forall_mem_append.mpr ⟨h, List.forall_mem_singleton.mpr hi⟩)
    all_goals exact ih _ _ hrest h

theorem getDataTypeAttrs_good (b : Back) (attrs : List RawAttr) : Post (fun r => r.1.ghostsGood) (getDataTypeAttrs b attrs) := by
  unfold getDataTypeAttrs
  refine Post.bind (collectDataTypeInstrs_good b attrs {} (by simp)) (fun acc hacc => ?_)
  refine Post.bind (assembleDataTypeAttrs_good acc.instrs [] {} hacc (by intro ga hga; cases hga)) (fun a ha => ?_)
  exact Post.pure ha

theorem ghostsPathsWF_of {gas : List GhostsAttr} (h : ∀ ga ∈ gas, ∀ g ∈ ga.attr.ghostData, g.good) : ghostsPathsWF gas = true := by
  unfold ghostsPathsWF
  simp only [List.all_eq_true]
  intro ga hga g hg
  cases hcp : g.childPath with
  | none => rfl
  | some cp => exact h ga hga g hg cp hcp

theorem memberPathsWF_of {a : MemberAttrs} (h : a.wfAll) : a.pathsWF = true := by
  unfold MemberAttrs.pathsWF
  simp only [List.all_eq_true]
  exact h.1

/-- **the attribute parser builds well-formed child paths**: whatever it accepts satisfies `pathsWF` -/
theorem parseInput_pathsWF (b : Back) (node : RawInput) (input : DataType) (h : parseInput b node = some input) :
    input.pathsWF = true := by
  refine parseInput_post (fun d => d.pathsWF = true) b node (fun data _ => ?_) (fun vs _ => ?_) input h
  · unfold Struct.fromSyn
    refine Post.bind (getDataTypeAttrs_good b _) (fun r hr => ?_)
    obtain ⟨attrs, bark⟩ := r
    refine Post.bind (multipleFromSyn_wf b bark _ 0 {} [] ctxWF_empty (by simp))
      (fun r2 hr2 => ?_)
    obtain ⟨fields, ctx⟩ := r2
    refine Post.pure ?_
    simp only [DataType.pathsWF, DataType.attrs, DataType.members, Bool.and_eq_true, List.all_eq_true, List.mem_map]
    refine ⟨ghostsPathsWF_of hr, ?_⟩
    rintro m ⟨f, hf, rfl⟩
    exact memberPathsWF_of (hr2.1 f hf)
  · unfold Enum.fromSyn
    refine Post.bind (getDataTypeAttrs_good b _) (fun r hr => ?_)
    obtain ⟨attrs, bark⟩ := r
    refine Post.bind (Variant.multipleFromSyn_wf b bark vs {} [] ctxWF_empty (by simp))
      (fun variants hvs => ?_)
    refine Post.pure ?_
    simp only [DataType.pathsWF, DataType.attrs, DataType.members, Bool.and_eq_true, List.all_eq_true, List.mem_map]
    refine ⟨ghostsPathsWF_of hr, ?_⟩
    rintro m ⟨v, hv, rfl⟩
    simp only [Bool.and_eq_true, List.all_eq_true]
    exact ⟨ghostsPathsWF_of (hvs v hv).1.2, fun f hf => memberPathsWF_of ((hvs v hv).2 f hf)⟩

theorem RawFields.named_of_shapeWF (r : RawFields) (h : r.shapeWF = true) (hk : (r.kind == FieldsKind.named) = true) :
    ∀ n ∈ r.fields, n.name.isSome = true := by
  simp only [RawFields.shapeWF, Bool.or_eq_true, bne_iff_ne, ne_eq, List.all_eq_true] at h
  exact h.resolve_left (fun hne => hne (by simpa using hk))

theorem Field.fromSyn_named (b : Back) (idx : Nat) (node : RawField) (bark : Bool) (hn : node.name.isSome = true) :
    Post (fun f => f.member.isNamed = true) (Field.fromSyn b idx node bark) := by
  unfold Field.fromSyn
  refine Post.bind_any (fun a => Post.pure ?_)
  cases h : node.name with
  | none => simp [h] at hn
  | some n => simp [Member.isNamed]

theorem merge_member (f : Field) (m : MemberAttrs) : ({ f with attrs := f.attrs.merge m } : Field).member = f.member := rfl

theorem multipleFromSyn_named (b : Back) (bark : Bool) : ∀ (nodes : List RawField) (i : Nat) (ctx : Context) (acc : List Field),
    (∀ n ∈ nodes, n.name.isSome = true) → (∀ f ∈ acc, f.member.isNamed = true) →
    Post (fun r => ∀ f ∈ r.1, f.member.isNamed = true) (Field.multipleFromSyn b bark nodes i ctx acc) := by
  intro nodes
  induction nodes with
  | nil =>
    intro i ctx acc _ hacc
    unfold Field.multipleFromSyn
    exact Post.ok (fun f hf => hacc f (List.mem_reverse.mp hf))
  | cons node rest ih =>
    intro i ctx acc hn hacc
    unfold Field.multipleFromSyn
    obtain ⟨hnode, hrest⟩ := List.forall_mem_cons.mp hn
    refine Post.bind (Field.fromSyn_named b i node bark hnode) (fun field hfield => ?_)
    have hacc' : ∀ f ∈ field :: acc, f.member.isNamed = true := List.forall_mem_cons.mpr ⟨hfield, hacc⟩
    simp only []
    generalize (if field.attrs.stopRepeat = true then { ctx with fieldAttrsToRepeat := none } else ctx) = ctx1
    split
    · split
      · exact Post.error
      · exact ih _ _ _ hrest hacc'
    · split
      · exact ih _ _ _ hrest (List.forall_mem_cons.mpr ⟨hfield, hacc⟩)
      · exact ih _ _ _ hrest hacc'

/-- `shapeWF` for one variant -/
def Variant.shaped (v : Variant) : Prop := v.namedFields = true → ∀ f ∈ v.fields, f.member.isNamed = true

theorem Variant.fromSyn_shaped (b : Back) (ctx : Context) (v : RawVariant) (bark : Bool) (hv : v.fields.shapeWF = true) :
    Post (fun r => r.1.shaped) (Variant.fromSyn b ctx v bark) := by
  unfold Variant.fromSyn
  cases hk : (v.fields.kind == FieldsKind.named) with
  | false =>
    refine Post.bind_any (fun r => ?_)
    obtain ⟨fields, ctx'⟩ := r
    refine Post.bind_any (fun a => Post.pure ?_)
    intro hnamed
    simp at hnamed
  | true =>
    refine Post.bind (multipleFromSyn_named b bark _ 0 ctx [] (RawFields.named_of_shapeWF _ hv hk) (by simp)) (fun r hr => ?_)
    obtain ⟨fields, ctx'⟩ := r
    refine Post.bind_any (fun a => Post.pure ?_)
    intro _
    exact hr

theorem Variant.multipleFromSyn_shaped (b : Back) (bark : Bool) : ∀ (vs : List RawVariant) (ctx : Context) (acc : List Variant),
    (∀ v ∈ vs, v.fields.shapeWF = true) → (∀ v ∈ acc, v.shaped) →
    Post (fun l => ∀ v ∈ l, v.shaped) (Variant.multipleFromSyn b bark vs ctx acc) := by
  intro vs
  induction vs with
  | nil =>
    intro ctx acc _ hacc
    unfold Variant.multipleFromSyn
    exact Post.ok (fun v hv => hacc v (List.mem_reverse.mp hv))
  | cons rv rest ih =>
    intro ctx acc hvs hacc
    unfold Variant.multipleFromSyn
    obtain ⟨hrv, hrest⟩ := List.forall_mem_cons.mp hvs
    refine Post.bind (Variant.fromSyn_shaped b ctx rv bark hrv) (fun r hr => ?_)
    obtain ⟨variant, ctx'⟩ := r
    simp only []
    have hacc' : ∀ v ∈ variant :: acc, v.shaped := List.forall_mem_cons.mpr ⟨hr, hacc⟩
    generalize (if variant.attrs.stopRepeat = true then { ctx' with variantAttrsToRepeat := none } else ctx') = ctx1
    split
    · split
      · exact Post.error
      · exact ih _ _ hrest hacc'
    · split
      · exact ih _ _ hrest (List.forall_mem_cons.mpr ⟨hr, hacc⟩)
      · exact ih _ _ hrest hacc'

/-- the parser keeps what `syn` hands over: named-field containers carry named members -/
theorem parseInput_shapeWF (b : Back) (node : RawInput) (input : DataType) (h : parseInput b node = some input)
    (hraw : node.shapeWF = true) : input.shapeWF = true := by
  unfold RawInput.shapeWF at hraw
  refine parseInput_post (fun d => d.shapeWF = true) b node (fun data hbody => ?_) (fun vs hbody => ?_) input h
  · simp only [hbody] at hraw
    unfold Struct.fromSyn
    refine Post.bind_any (fun r => ?_)
    obtain ⟨attrs, bark⟩ := r
    cases hk : (data.kind == FieldsKind.named) with
    | false =>
      refine Post.bind_any (fun r2 => Post.pure ?_)
      simp [DataType.shapeWF]
    | true =>
      refine Post.bind (multipleFromSyn_named b bark _ 0 {} [] (RawFields.named_of_shapeWF data hraw hk) (by simp))
        (fun r2 hr2 => Post.pure ?_)
      simp only [DataType.shapeWF, Bool.not_true, Bool.false_or, List.all_eq_true]
      exact hr2
  · simp only [hbody, List.all_eq_true] at hraw
    unfold Enum.fromSyn
    refine Post.bind_any (fun r => ?_)
    obtain ⟨attrs, bark⟩ := r
    refine Post.bind (Variant.multipleFromSyn_shaped b bark vs {} [] hraw (by simp)) (fun variants hvs => Post.pure ?_)
    simp only [DataType.shapeWF, List.all_eq_true]
    intro v hv
    cases hn : v.namedFields with
    | false => simp
    | true => simpa [hn, List.all_eq_true] using hvs v hv hn

end O2o
