/-
C05 — the most specific applicable member instruction wins; others never interfere.
-/
import O2oModel.Lemmas.Lookup
namespace O2o

/-- the fallback chain of (kind, fallibility) levels for a conversion, most specific first -/
def chain (k : Kind) (f : Bool) : List (Kind × Bool) :=
  [(k, f)] ++ (if f then [(k, false)] else []) ++
  (if k == .ownedIntoExisting then [(Kind.ownedInto, f)] ++ (if f then [(Kind.ownedInto, false)] else []) else []) ++
  (if k == .refIntoExisting then [(Kind.refInto, f)] ++ (if f then [(Kind.refInto, false)] else []) else [])

/-- specification: an applicable `#[ghost]` beats everything; otherwise the first level of the chain that has an
    instruction decides, and inside a level dedicated beats default (that is `fieldAttrCore`) -/
def Spec.pick (a : MemberAttrs) (k : Kind) (f : Bool) (ty : TypePath) : Option ApplicableAttr :=
  match a.ghost ty k with
  | some g => some (.ghost g)
  | none => ((chain k f).findSome? fun (k', f') => a.fieldAttrCore k' f' ty).map .field

theorem findSome_cons_or {α β : Type} (g : α → Option β) (x : α) (l : List α) :
    (x :: l).findSome? g = (g x).or (l.findSome? g) := by
  cases h : g x <;> simp [h]

theorem ite_or_ite {β : Type} (c : Prop) [Decidable c] (x y : Option β) :
    (if c then x else none).or (if c then y else none) = if c then x.or y else none := by
  split <;> simp

/-- C05-1: the lookup the expander uses is the specification, for every instruction list and all 12 kinds -/
theorem C05_pick (a : MemberAttrs) (k : Kind) (f : Bool) (ty : TypePath) :
    a.applicableAttr k f ty = Spec.pick a k f ty := by
  unfold MemberAttrs.applicableAttr Spec.pick chain
  cases hg : a.ghost ty k with
  | some g => simp
  | none =>
    -- both sides are `<|>` cascades over the same levels; the code tests `into_existing` once per level, the chain once per pair
    cases f <;>
      simp [List.findSome?_append, findSome_cons_or, apply_ite (List.findSome? _), Option.map_or, apply_ite (Option.map _),
        ← ite_or_ite, Option.or_assoc]

/-- C05 (dedicated beats default, at one level): if some instruction of the level is dedicated to the counterpart, the
    selected one is dedicated to it -/
theorem C05_dedicated_then_default (a : MemberAttrs) (k : Kind) (f : Bool) (ty : TypePath) (x : MemberAttr)
    (hx : x ∈ a.iterForKind k f) (hd : isSomeEq x.attr.containerTy ty = true) :
    ∃ r, a.fieldAttr k f ty = some r ∧ isSomeEq r.attr.containerTy ty = true := by
  obtain ⟨r, h1, _, h3⟩ := findDedicatedOrDefault_dedicated_wins (a.iterForKind k f) (fun _ => true) (·.attr.containerTy) ty x hx rfl hd
  exact ⟨r, h1, h3⟩

/-- same for the six other single-level lookups -/
theorem C05_dedicated_ghost (a : MemberAttrs) (k : Kind) (ty : TypePath) (x : GhostAttr)
    (hx : x ∈ a.ghostAttrs) (hk : x.appl.get k = true) (hd : isSomeEq x.attr.containerTy ty = true) :
    ∃ r, a.ghost ty k = some r ∧ isSomeEq r.containerTy ty = true := by
  obtain ⟨r, h1, _, h3⟩ := findDedicatedOrDefault_dedicated_wins a.ghostAttrs (·.appl.get k) (·.attr.containerTy) ty x hx hk hd
  exact ⟨r.attr, by simp [MemberAttrs.ghost, h1], h3⟩

/-- C05-2 (non-interference, one level): an instruction that is not of this level, or is dedicated to another
    counterpart, can be added anywhere among the member's instructions without changing what the level selects -/
theorem C05_noninterference_level (pre post : List MemberAttr) (y : MemberAttr) (rest : MemberAttrs) (k : Kind) (f : Bool) (ty : TypePath)
    (h : ((y.fallible == f && y.appl.get k) && relevantTo ty y.attr.containerTy) = false) :
    ({ rest with attrs := pre ++ y :: post } : MemberAttrs).fieldAttr k f ty = ({ rest with attrs := pre ++ post } : MemberAttrs).fieldAttr k f ty := by
  simp only [MemberAttrs.fieldAttr, MemberAttrs.iterForKind, findDedicatedOrDefault_filter_ok]
  apply findDedicatedOrDefault_insert_irrelevant
  rw [Bool.and_true]
  exact h

/-- C05-2 lifted to the whole chain: if the added instruction is irrelevant at every level of the chain (not
    applicable to the kind or its fallbacks, or dedicated to another counterpart), the conversion's selected
    instruction — hence its generated line — is unchanged -/
theorem C05_noninterference (pre post : List MemberAttr) (y : MemberAttr) (rest : MemberAttrs) (k : Kind) (f : Bool) (ty : TypePath)
    (h : ∀ k' f', ((y.fallible == f' && y.appl.get k') && relevantTo ty y.attr.containerTy) = false) :
    ({ rest with attrs := pre ++ y :: post } : MemberAttrs).applicableAttr k f ty = ({ rest with attrs := pre ++ post } : MemberAttrs).applicableAttr k f ty := by
  simp only [MemberAttrs.applicableAttr, MemberAttrs.fieldAttrCore,
    C05_noninterference_level pre post y rest _ _ ty (h _ _)]
  rfl

/-- a `#[ghost]` that does not apply to the kind, or is dedicated elsewhere, does not interfere either -/
theorem C05_noninterference_ghost (pre post : List GhostAttr) (y : GhostAttr) (rest : MemberAttrs) (k : Kind) (ty : TypePath)
    (h : (y.appl.get k && relevantTo ty y.attr.containerTy) = false) :
    ({ rest with ghostAttrs := pre ++ y :: post } : MemberAttrs).ghost ty k = ({ rest with ghostAttrs := pre ++ post } : MemberAttrs).ghost ty k := by
  simp only [MemberAttrs.ghost]
  rw [findDedicatedOrDefault_insert_irrelevant pre post y (·.appl.get k) (·.attr.containerTy) ty h]

/-- the nested `[instr(..)]` lookup inside `#[parent(..)]`: exact kind first, then the `into` fallback for into_existing -/
theorem C05_nested_parent (pc : ParentChildField) (k : Kind) :
    pc.getForKind k = ((pc.attrs.find? (·.appl.get k)) <|>
      (if k == .ownedIntoExisting then pc.attrs.find? (·.appl.get .ownedInto) else none) <|>
      (if k == .refIntoExisting then pc.attrs.find? (·.appl.get .refInto) else none)) := rfl

/-- C05-4 (the validator's view, since fix 6dc1e19): for every conversion — fallible or not — when no ghost applies,
    the validator's `applicable_field_attr` selects the same instruction as the expander's `applicable_attr`: the three
    copies of the lookup chain agree. (Before the fix the validator always asked with `fallible = false`; the statement
    then held for infallible conversions only and was kept as `C05_three_views_agree_partial`.) -/
theorem C05_three_views_agree (a : MemberAttrs) (k : Kind) (f : Bool) (ty : TypePath) (hg : a.ghost ty k = none) :
    (a.applicableFieldAttr k f ty).map (fun x => ApplicableAttr.field x.attr) = a.applicableAttr k f ty := by
  unfold MemberAttrs.applicableFieldAttr MemberAttrs.applicableAttr MemberAttrs.fieldAttrCore
  simp only [hg, Option.map_none, Option.orElse_eq_orElse, Option.orElse_eq_or, Option.none_or, Option.map_or,
    apply_ite (Option.map _), Option.map_map]
  rfl

/-- the instance the validator used to be limited to -/
theorem C05_three_views_agree_partial (a : MemberAttrs) (k : Kind) (ty : TypePath) (hg : a.ghost ty k = none) :
    (a.applicableFieldAttr k false ty).map (fun x => ApplicableAttr.field x.attr) = a.applicableAttr k false ty :=
  C05_three_views_agree a k false ty hg

end O2o
