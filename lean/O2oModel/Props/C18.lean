/-
C18 — the syn 1 and syn 2 back-ends behave identically.
What differs between the two builds is (a) the cfg-split code of attr.rs, modelled in Ast.lean
(`bareAttrTokens`, a `match` on the back-end) and proved equal here, and (b) the two versions of the
parsing library, which no model of mine can prove equal: (b) is compared by running both builds
(correspondence against the same model under both back-ends + direct diff, see DESIGN.md).
-/
import O2oModel.Expand
namespace O2o

/-- the cfg-split code the model was written against -/
def cfgTable : List Gen.CfgSplit := [
  ⟨"attr.rs", "use", "syn2", "use syn2 as syn ;"⟩,
  ⟨"attr.rs", "get_data_type_attrs:let path", "syn", "let path = & x . path ;"⟩,
  ⟨"attr.rs", "get_data_type_attrs:let path", "syn2", "let path = x . meta . path () ;"⟩,
  ⟨"attr.rs", "get_data_type_attrs:let tokens", "syn", "let tokens = syn :: parse2 (x . tokens . clone ()) . map (| x : OptionalParenthesizedTokenStream | x . content ()) ? ;"⟩,
  ⟨"attr.rs", "get_data_type_attrs:let tokens", "syn2", "let tokens = match & x . meta { syn2 :: Meta :: Path (_) => TokenStream :: new () , syn2 :: Meta :: List (l) => match l . delimiter { syn2 :: MacroDelimiter :: Paren (_) => l . tokens . clone () , _ => Err (syn :: Error :: new (x . span () , \"unexpected token\")) ? , } , syn2 :: Meta :: NameValue (_) => Err (syn :: Error :: new (x . span () , \"#[name = \\\"Value\\\"] syntax is not supported.\")) ? , } ;"⟩,
  ⟨"attr.rs", "get_member_attrs:let path", "syn", "let path = & x . path ;"⟩,
  ⟨"attr.rs", "get_member_attrs:let path", "syn2", "let path = x . meta . path () ;"⟩,
  ⟨"attr.rs", "get_member_attrs:let tokens", "syn", "let tokens = syn :: parse2 (x . tokens . clone ()) . map (| x : OptionalParenthesizedTokenStream | x . content ()) ? ;"⟩,
  ⟨"attr.rs", "get_member_attrs:let tokens", "syn2", "let tokens = match & x . meta { syn2 :: Meta :: Path (_) => TokenStream :: new () , syn2 :: Meta :: List (l) => match l . delimiter { syn2 :: MacroDelimiter :: Paren (_) => l . tokens . clone () , _ => Err (syn :: Error :: new (x . span () , \"unexpected token\")) ? , } , syn2 :: Meta :: NameValue (_) => Err (syn :: Error :: new (x . span () , \"#[name = \\\"Value\\\"] syntax is not supported.\")) ? , } ;"⟩,
  ⟨"attr.rs", "try_parse_child_parents", "syn", "fn try_parse_child_parents (input : ParseStream) -> Result < Punctuated < ChildParentData , Token ! [,] > > { input . parse_terminated (| x | { let child_path : Punctuated < Member , Token ! [.] > = Punctuated :: parse_separated_nonempty (x) ? ; x . parse :: < Token ! [:] > () ? ; let ty = x . parse :: < syn :: Path > () ? ; Ok (ChildParentData { ty , type_hint : try_parse_type_hint (x) ? , field_path : child_path . clone () , field_path_str : child_path . to_token_stream () . to_string () . chars () . filter (| c | ! c . is_whitespace ()) . collect () , }) }) }"⟩,
  ⟨"attr.rs", "try_parse_child_parents", "syn2", "fn try_parse_child_parents (input : ParseStream) -> Result < Punctuated < ChildParentData , Token ! [,] > > { input . parse_terminated (| x | { let child_path : Punctuated < Member , Token ! [.] > = Punctuated :: parse_separated_nonempty (x) ? ; x . parse :: < Token ! [:] > () ? ; let ty = x . parse :: < syn :: Path > () ? ; Ok (ChildParentData { ty , type_hint : try_parse_type_hint (x) ? , field_path : child_path . clone () , field_path_str : child_path . to_token_stream () . to_string () . chars () . filter (| c | ! c . is_whitespace ()) . collect () , }) } , Token ! [,]) }"⟩,
  ⟨"ast.rs", "use", "syn2", "use syn2 as syn ;"⟩,
  ⟨"validate.rs", "use", "syn2", "use syn2 as syn ;"⟩,
  ⟨"expand.rs", "use", "syn2", "use syn2 as syn ;"⟩]

/-- C18-1: the set (and text) of `#[cfg(feature = "syn" | "syn2")]` items and statements in the sources is exactly
    the one the model splits on. New or edited cfg-split code breaks this obligation. -/
theorem C18_inventory : Gen.cfgSplits = cfgTable := rfl

/-- C18-2: the tokens handed to the instruction parser for a bare `#[instr …]` attribute are the same under both
    back-ends, for every attribute shape (path only, parenthesised / braced / bracketed list, name = value) -/
theorem C18_extraction (a : RawAttr) : bareAttrTokens .syn1 a = bareAttrTokens .syn2 a := by
  cases a with
  | mk path shape =>
    cases shape with
    | path => rfl
    | list d ts => cases d <;> rfl
    | nameValue ts => rfl

/-- the only other place the model consults the back-end: the reserved-word list of `Ident::parse` / `peek(Ident)` -/
theorem C18_keywords (s : String) (h : s ∉ ["async", "await", "dyn", "try"]) : isKeyword .syn1 s = isKeyword .syn2 s := by
  unfold isKeyword keywords
  apply Bool.eq_iff_iff.mpr
  simp only [List.append_nil, List.contains_iff_mem, List.mem_append]
  exact ⟨Or.inl, fun h1 => h1.resolve_right h⟩

/-- non-vacuity of C18-2 on the shape that used to differ (brace-delimited bare instruction): both reject -/
example : bareAttrTokens .syn1 ⟨[.ident "map"], .list .brace [.ident "A"]⟩ = .error .lib ∧
          bareAttrTokens .syn2 ⟨[.ident "map"], .list .brace [.ident "A"]⟩ = .error .lib := ⟨rfl, rfl⟩

end O2o
