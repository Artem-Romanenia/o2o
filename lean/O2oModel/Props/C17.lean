/-
C17 — accepted inputs expand to syntactically valid impl items of the right shape.
The six impl skeletons are regenerated from the `quote_*_trait` bodies of expand.rs on every run; the
theorems fix their shape: one `impl … for … { [type Error = …;] fn <name>(<signature>) [-> ret] { … } }`
with the method name and signature the trait requires.
-/
import O2oModel.Lemmas.Blocks
namespace O2o
open Gen

def tk (s : String) : Tm := .t (.ident s)
def pn (c : Char) : Tm := .t (.punct c false)
def pj (c : Char) : Tm := .t (.punct c true)

def resultOf (okTy : List Tm) : List Tm :=
  [pj '-', pn '>', pj ':', pn ':', tk "core", pj ':', pn ':', tk "result", pj ':', pn ':', tk "Result", pn '<'] ++ okTy ++ [pn ',', .h "err_ty", pn '>']

structure SkelSpec where
  tmpl : List Tm
  traitPath : List Tm
  fallible : Bool
  fnName : String
  params : List Tm
  ret : List Tm
  /-- trait argument and self type -/
  arg : List Tm
  self_ : List Tm
  /-- what the fn body must end with, after the holes -/
  bodyHoles : List Tm

def corePath (n : String) : List Tm := [pj ':', pn ':', tk "core", pj ':', pn ':', tk "convert", pj ':', pn ':', tk n]
def o2oPath (n : String) : List Tm := [tk "o2o", pj ':', pn ':', tk "traits", pj ':', pn ':', tk n]

def srcArg : List Tm := [.h "r", .h "src", .h "those_gens"]
def dstThese : List Tm := [.h "dst", .h "these_gens"]
def dstThose : List Tm := [.h "dst", .h "those_gens"]
def srcSelf : List Tm := [.h "r", .h "src", .h "these_gens"]
def existingParams : List Tm := [tk "self", pn ',', tk "other", pn ':', pn '&', tk "mut", .h "dst", .h "those_gens"]

def skelSpecs : List SkelSpec := [
  ⟨tmpl_quote_from_trait.getD 0 [], corePath "From", false, "from", [tk "value", pn ':'] ++ srcArg, [pj '-', pn '>'] ++ dstThese, srcArg, dstThese,
    [.h "inner_attr", .h "pre_init", .h "init"]⟩,
  ⟨tmpl_quote_try_from_trait.getD 0 [], corePath "TryFrom", true, "try_from", [tk "value", pn ':'] ++ srcArg, resultOf dstThese, srcArg, dstThese,
    [.h "inner_attr", .h "pre_init", .h "init"]⟩,
  ⟨tmpl_quote_into_trait.getD 2 [], corePath "Into", false, "into", [tk "self"], [pj '-', pn '>'] ++ dstThose, dstThose, srcSelf,
    [.h "inner_attr", .h "body"]⟩,
  ⟨tmpl_quote_try_into_trait.getD 2 [], corePath "TryInto", true, "try_into", [tk "self"], resultOf dstThose, dstThose, srcSelf,
    [.h "inner_attr", .h "body"]⟩,
  ⟨tmpl_quote_into_existing_trait.getD 0 [], o2oPath "IntoExisting", false, "into_existing", existingParams, [], dstThose, srcSelf,
    [.h "inner_attr", .h "pre_init", .h "init", .h "post_init"]⟩,
  ⟨tmpl_quote_try_into_existing_trait.getD 0 [], o2oPath "TryIntoExisting", true, "try_into_existing", existingParams, resultOf [.g .paren []], dstThose, srcSelf,
    [.h "inner_attr", .h "pre_init", .h "init", .h "post_init", tk "Ok", .g .paren [.g .paren []]]⟩]

/-- the whole item a skeleton must be, written out from its spec -/
def SkelSpec.expected (s : SkelSpec) : List Tm :=
  [.h "impl_attr", tk "impl", .h "impl_gens"] ++ s.traitPath ++ [pn '<'] ++ s.arg ++ [pn '>', tk "for"] ++ s.self_ ++ [.h "where_clause",
    .g .brace ((if s.fallible then [tk "type", tk "Error", pn '=', .h "err_ty", pn ';'] else []) ++
      [.h "attr", tk "fn", tk s.fnName, .g .paren s.params] ++ s.ret ++ [.g .brace s.bodyHoles])]

/-- C17-1: each of the six regenerated skeletons is exactly one impl item for its trait, holding exactly the one
    method that trait requires with the documented name, receiver, parameters and return type, plus
    `type Error = …;` for the fallible traits and nothing else. -/
theorem C17_skeletons : skelSpecs.all (fun s => s.tmpl == s.expected) = true := by decide +kernel

/-- the two bodies of the Into / TryInto skeletons: with a bare `#[parent]` (post-init dialect: the `vars` bindings, then the
    default value of the counterpart *with its generic arguments*, the assignments, the parent calls) and without -/
theorem C17_into_bodies :
    (tmpl_quote_into_trait.getD 0 [] ==
        [.h "pre_init", tk "let", tk "mut", tk "obj", pn ':', .h "dst", .h "those_gens", pn '=', tk "Default", pj ':', pn ':', tk "default", .g .paren [], pn ';', .h "init", .h "post_init", tk "obj"]
     && tmpl_quote_into_trait.getD 1 [] == [.h "pre_init", .h "init"]
     && tmpl_quote_try_into_trait.getD 0 [] ==
        [.h "pre_init", tk "let", tk "mut", tk "obj", pn ':', .h "dst", .h "those_gens", pn '=', tk "Default", pj ':', pn ':', tk "default", .g .paren [], pn ';', .h "init", .h "post_init", tk "Ok", .g .paren [tk "obj"]]
     && tmpl_quote_try_into_trait.getD 1 [] == [.h "pre_init", .h "init"]) = true := by decide +kernel

/-- C17: `data_type_impl` emits exactly one skeleton instance per impl context, concatenated (a sequence of items) -/
theorem C17_sequence_of_items (input : DataType) (impls : List TS) (h : dataTypeImpls input = .ok impls) :
    impls.length = (implContexts input).length := by
  unfold dataTypeImpls at h
  exact mapM_ok_length h

/-- C17 (*table*, regenerated): the bodies that wrap the initialiser — a struct conversion is the destination path applied
    to the init block (From and Into alike), an enum conversion is `match value {..}` (From) or `match self {..}` (Into);
    the IntoExisting flavours splice the statements unwrapped; a quick return into an existing value is `*other = <expr>;`;
    `vars` become `let a = b;`; the fallible body is `Ok(<inner>)` -/
theorem C17_main_blocks :
    (Gen.tmpl_struct_main_code_block == [[.h "dst", .h "struct_init_block"], [.h "dst", .h "struct_init_block"]]
     && Gen.tmpl_enum_main_code_block == [[tk "match", tk "value", .h "enum_init_block"], [tk "match", tk "self", .h "enum_init_block"]]
     && Gen.tmpl_struct_pre_init == [[tk "let", .h "a", pn '=', .h "b", pn ';']]
     && Gen.tmpl_main_code_block == [[pn '*', tk "other", pn '=', .h "action", pn ';']]
     && Gen.tmpl_main_code_block_ok == [[pn '*', tk "other", pn '=', .h "action", pn ';'], [tk "Ok", .g .paren [.h "inner"]]]) = true := by decide +kernel

def EndsSemi (ts : TS) : Prop := ∃ mid, ts = mid ++ [semi]
theorem EndsSemi.single : EndsSemi [semi] := ⟨[], rfl⟩
def IsObjStmt (ts : TS) : Prop := ∃ rest, ts = Tok.ident "obj" :: dot :: rest ∧ EndsSemi rest

/-- in a body assembled on a default value (a parameterless `#[parent]` member present) a type-level ghost is a
    statement `obj.<member> = <value>;` — it ends with `;` and begins with `obj .`, it is never a `name: value,`
    initialiser fragment (fix for the pinned tree: the fragment form made the body unparsable) -/
theorem C17_ghost_line_is_statement (g : GhostData) (ctx : ImplContext) (ts : TS)
    (hk : ctx.kind.cls = .into) (hp : ctx.hasPostInit = true) (h : renderGhostLine g ctx = .ok ts) :
    ∃ mid, ts = Tok.ident "obj" :: dot :: (mid ++ [semi]) := by
  suffices hs : IsObjStmt ts by
    obtain ⟨_, rfl, mid, rfl⟩ := hs
    exact ⟨mid, rfl⟩
  unfold renderGhostLine at h
  obtain ⟨m, _, h⟩ := (bind_ok_iff _ _ _).mp h
  -- a named and a positional ghost alike: `h` says `ts` is `obj . path = value ;`
  cases m
  all_goals
    simp only [hk, hp, ↓reduceIte, pure, Except.pure, Except.ok.injEq] at h
    subst h
    -- flattened, `ts` begins with `obj .`; that the rest ends with `;` is read off its `getLast?`
    exact ⟨_, by simp only [i, List.cons_append, List.nil_append, List.append_assoc]; rfl,
      List.getLast?_eq_some_iff.mp (by simp [List.getLast?_cons])⟩

/-- non-vacuity: a named type-level ghost in such a body -/
example : renderGhostLine { ghostIdent := .member (.named "g"), action := [Tok.lit "7"], childPath := none }
    { (default : ImplContext) with kind := .ownedInto, hasPostInit := true }
    = .ok [Tok.ident "obj", dot, Tok.ident "g", eq, Tok.lit "7", semi] := by rfl

/-- C17 (statement dialect): in a body assembled on a default value (`hasPostInit`: a parameterless `#[parent]` member is
    present) *every* member line of an Into / TryInto conversion — whatever the member's name kind, its instruction, the
    counterpart's shape hint, nested-parent context and position — is one statement `obj. … ;`, never an initialiser
    fragment `name: value,` / `value,`. (Members carrying a `#[parent]` instruction are skipped by the caller in Into
    conversions, hence the hypothesis; three arms violated this on the pinned tree: fix bed8f1e.) -/
theorem C17_post_init_line_is_statement (f : Field) (ctx : ImplContext) (hint : TypeHint) (idx : Nat) (pc : Option ParentChildField) (ts : TS)
    (hk : ctx.kind.cls = .into) (hp : ctx.hasPostInit = true) (hu : hint ≠ .unit)
    (hpa : f.attrs.hasParentAttr ctx.ty = false)
    (h : renderStructLine f ctx hint idx pc = .ok ts) : IsObjStmt ts := by
  unfold renderStructLine at h
  rw [hk, hp, hpa] at h
  extract_lets member attr at h
  clear_value member attr
  cases hint
  case unit => exact absurd rfl hu
  all_goals cases member <;> cases attr
  -- a positional member against a braced counterpart: `unreachable!("6")`
  case struct.unnamed.none => cases h
  -- what is left are the eleven Into arms: `h` says `ts` is `obj . slot = value ;`
  all_goals
    simp only [bind_ok_iff, pure, Except.pure, Except.ok.injEq, ↓reduceIte] at h
    first | subst h | (obtain ⟨_, _, _, _, rfl⟩ := h) | (obtain ⟨_, _, rfl⟩ := h)
    exact ⟨_, by simp only [i, List.cons_append, List.nil_append, List.append_assoc]; rfl,
      List.getLast?_eq_some_iff.mp (by simp [List.getLast?_cons])⟩

/-- non-vacuity: a named member against a positional counterpart (`as ()`) in such a body — the arm that used to emit
    `self.a,` -/
example : renderStructLine { (default : Field) with member := .named "a", idx := 0 }
    { (default : ImplContext) with kind := .ownedInto, hasPostInit := true } .tuple 2 none
    = .ok [Tok.ident "obj", dot, Tok.lit "2", eq, Tok.ident "self", dot, Tok.ident "a", semi] := by rfl

/-- the type of a nested struct is written in expression form in front of the struct expression that builds it (fix
    380ecc1): the generic arguments of the path's own segments get `::`, nested arguments stay in type form, a turbofish
    that is already there is left alone -/
example : exprPath [i "R", p '<', i "T", p '>'] = [i "R", j ':', p ':', p '<', i "T", p '>'] := rfl
example : exprPath [i "m", j ':', p ':', i "Q", p '<', i "Vec", p '<', i "u8", p '>', p '>']
    = [i "m", j ':', p ':', i "Q", j ':', p ':', p '<', i "Vec", p '<', i "u8", p '>', p '>'] := rfl
example : exprPath [i "R", j ':', p ':', p '<', i "T", p '>'] = [i "R", j ':', p ':', p '<', i "T", p '>'] := rfl
example : exprPath [i "P"] = [i "P"] := rfl

end O2o
