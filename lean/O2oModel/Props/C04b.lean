/-
C04, second part — "none missing" starts where the instructions are read: every trait instruction written in an
`#[o2o(..)]` list reaches the instruction list, wherever the `allow_unknown` switch stands in that list, and the switch
itself is no instruction: the impls requested are those of the list without it. "None extra": a validated input gets
no impl twice (`C04_no_impl_twice`).
-/
import O2oModel.Props.C04
import O2oModel.Props.C15
import O2oModel.Lemmas.Grouping
namespace O2o

/-- C04-5 (reading a list): a grouped attribute `#[o2o(e0, e1, .., e(n-1))]` appends exactly n instructions to the
    instruction list, the k-th one being what the k-th element parses to — elements written before, between or after
    `allow_unknown` alike (the switch only decides whether *later* foreign attributes are reported) -/
theorem C04_list_nothing_dropped (b : Back) (items : List (String × Option TS)) (acc r : DTAcc)
    (hk : ∀ e ∈ items, isKeyword b e.1 = false)
    (h : collectDataTypeInstrs b [groupAttr items] acc = .ok r) :
    ∃ xs, r.instrs = acc.instrs ++ xs ∧ xs.length = items.length ∧
      ∀ k (h1 : k < items.length) (h2 : k < xs.length),
        parseDataTypeInstruction b items[k].1 (items[k].2.getD []) true true = .ok xs[k] := by
  rw [collect_group b items [] acc hk] at h
  cases hr : allResults (fun instr c => parseDataTypeInstruction b instr c true true) items with
  | error err => simp [hr] at h
  | ok xs =>
    simp only [hr, collectDataTypeInstrs] at h
    cases h
    exact ⟨xs, rfl, allResults_get _ items xs hr⟩

/-- C04-6 (`allow_unknown` is a switch, not an instruction): the assembled type-level attributes — the trait
    instructions the impls are generated from, with their `repeat()` bookkeeping — are those of the instruction list
    with every `allow_unknown` entry left out, wherever the entries stand -/
theorem C04_allow_unknown_no_instruction (is : List DataTypeInstruction) (m : RepeatMap) (a : DataTypeAttrs) :
    assembleDataTypeAttrs (is.filter fun i => !i.isAllowUnknown) m a = assembleDataTypeAttrs is m a := by
  induction is generalizing m a with
  | nil => rfl
  | cons i rest ih =>
    cases i
    -- the switch is dropped by the filter and skipped by the loop; every other instruction is kept by both
    case allowUnknown =>
      rw [List.filter_cons_of_neg (by simp [DataTypeInstruction.isAllowUnknown]), ih, assembleDataTypeAttrs.eq_def (_ :: _)]
    all_goals
      rw [List.filter_cons_of_pos rfl]
      simp only [assembleDataTypeAttrs, ih]

/-- non-vacuity: a list with the switch in the middle keeps both neighbours -/
example : (([DataTypeInstruction.unrecognized, .allowUnknown, .unrecognized] : List DataTypeInstruction).filter
    fun i => !i.isAllowUnknown).length = 2 := rfl

theorem dup_split {α β : Type} [DecidableEq β] (g : α → β) (l : List α) (h : ¬ (l.map g).Nodup) :
    ∃ pre a mid a' post, l = pre ++ a :: (mid ++ a' :: post) ∧ g a' = g a := by
  induction l with
  | nil => exact absurd List.nodup_nil h
  | cons x xs ih =>
    by_cases hx : g x ∈ xs.map g
    · obtain ⟨y, hy, hgy⟩ := List.mem_map.mp hx
      obtain ⟨mid, post, rfl⟩ := List.append_of_mem hy
      exact ⟨[], x, mid, y, post, rfl, hgy⟩
    · obtain ⟨pre, a, mid, a', post, hl, hg⟩ := ih fun hn => h (List.nodup_cons.mpr ⟨hx, hn⟩)
      exact ⟨x :: pre, a, mid, a', post, by simp [hl], hg⟩

/-- C04-7 (validated ⇒ one request per counterpart and pass): in an input that validation accepts, the instructions of
    one (kind, fallibility) pass name pairwise different counterparts -/
theorem C04_validated_types_distinct (input : DataType) (hv : validate input = []) (k : Kind) (hk : k ∈ validateKinds) (f : Bool) :
    ((input.attrs.iterForKindCore k f).map (·.ty.pathStr)).Nodup := by
  apply Classical.byContradiction
  intro hnd
  obtain ⟨pre, a, mid, a', post, hl, hg⟩ := dup_split (fun (x : TraitAttrCore) => x.ty.pathStr) _ hnd
  have hbeq : (a'.ty == a.ty) = true := by
    show (a'.ty.pathStr == a.ty.pathStr) = true
    simp [hg]
  exact List.not_mem_nil (hv ▸ C15_complete_R2_validate input k f pre mid post a a' hk hl hbeq)

/-- C04-8 (none extra): the impls generated for a validated input are pairwise different — no (kind, fallibility,
    counterpart) occurs twice, whatever names the instructions were written with (`map` next to `from`, ..) -/
theorem C04_no_impl_twice (input : DataType) (hv : validate input = []) :
    ((implContexts input).map ImplContext.key).Nodup := by
  unfold implContexts
  simp only [List.map_flatMap, List.map_map]
  rw [List.nodup_iff_pairwise_ne, List.pairwise_flatMap]
  refine ⟨?_, ?_⟩
  · intro ⟨k, f⟩ _
    have hd := C04_validated_types_distinct input hv k (by cases k <;> decide) f
    rw [List.nodup_iff_pairwise_ne, List.pairwise_map] at hd
    rw [List.pairwise_map]
    -- the key of the impl made from `sa` in pass (k, f) is `(k, f, sa.ty.pathStr)`
    exact hd.imp fun hxy h => hxy (congrArg (·.2.2) h)
  · have hpn : implPasses.Nodup := by decide
    refine (List.nodup_iff_pairwise_ne.mp hpn).imp ?_
    intro ⟨k1, f1⟩ ⟨k2, f2⟩ hpq x hx y hy hxy
    obtain ⟨sa1, _, rfl⟩ := List.mem_map.mp hx
    obtain ⟨sa2, _, rfl⟩ := List.mem_map.mp hy
    -- … and begins with `k`, `f`
    exact hpq (Prod.ext (congrArg (·.1) hxy) (congrArg (·.2.1) hxy))

end O2o
