/-
C20 — generated code works in #![no_std]: only ::core, o2o::traits and user names.
-/
import O2oModel.Expand
namespace O2o

/-- identifiers the expander is allowed to introduce on its own -/
def allowedIdents : List String := [
  -- paths
  "core", "convert", "result", "o2o", "traits", "From", "TryFrom", "Into", "TryInto", "IntoExisting", "TryIntoExisting", "Result",
  -- prelude items
  "Default", "Ok", "default", "Error",
  -- keywords
  "impl", "for", "fn", "type", "let", "mut", "match", "where", "as", "_", "self",
  -- binders and method names of the six traits
  "value", "other", "obj", "from", "try_from", "into", "try_into", "into_existing", "try_into_existing",
  -- `format_ident!("f{}", n)`: tuple payload bindings f0, f1, …
  "fmt:f{}"]

/-- C20-1: every identifier written literally in any `quote!` / `parse_quote!` / `format_ident!` of expand.rs and
    attr.rs is in the allowed list; in particular `std` and `alloc` never occur. -/
theorem C20_quoted_idents :
    (Gen.quotedIdents.all allowedIdents.contains && !Gen.quotedIdents.contains "std" && !Gen.quotedIdents.contains "alloc") = true := by decide +kernel

/-- every `core` inside a `quote!` is written as the absolute path `::core` -/
theorem C20_core_absolute : Gen.coreNotAbsolute = [] := by decide

/-- all literal identifiers of the regenerated skeletons the model instantiates -/
def skeletonIdents : List String :=
  (Gen.tmpl_quote_from_trait ++ Gen.tmpl_quote_try_from_trait ++ Gen.tmpl_quote_into_trait ++ Gen.tmpl_quote_try_into_trait ++
   Gen.tmpl_quote_into_existing_trait ++ Gen.tmpl_quote_try_into_existing_trait ++ Gen.tmpl_render_parent ++ Gen.tmpl_main_code_block ++
   Gen.tmpl_main_code_block_ok ++ Gen.tmpl_struct_main_code_block ++ Gen.tmpl_enum_main_code_block ++ Gen.tmpl_struct_pre_init ++
   Gen.tmpl_quote_action).flatMap Gen.Tm.identsList

/-- C20-2 (skeleton part): what `skel` instantiates contains only allowed identifiers and quoted ones -/
theorem C20_skeleton_idents : skeletonIdents.all (fun s => allowedIdents.contains s && Gen.quotedIdents.contains s) = true := by decide +kernel

def takeSegs : List Gen.Tm → List String
  | .t (.punct ':' _) :: rest => takeSegs rest
  | .t (.ident s) :: rest => s :: takeSegs rest
  | _ => []

def segsAfter : List Gen.Tm → List String
  | .h "impl_gens" :: rest => takeSegs rest
  | _ :: rest => segsAfter rest
  | [] => []

def traitSegsOf (k : Kind) (f : Bool) : List String :=
  segsAfter (match k.cls, f with
    | .from_, false => Gen.tmpl_quote_from_trait.getD 0 []
    | .from_, true => Gen.tmpl_quote_try_from_trait.getD 0 []
    | .into, false => Gen.tmpl_quote_into_trait.getD 2 []
    | .into, true => Gen.tmpl_quote_try_into_trait.getD 2 []
    | .existing, false => Gen.tmpl_quote_into_existing_trait.getD 0 []
    | .existing, true => Gen.tmpl_quote_try_into_existing_trait.getD 0 [])

/-- the library paths named by the skeletons are exactly the documented ones -/
theorem C20_library_paths :
    Kind.all.all (fun k => [false, true].all fun f =>
      let segs := traitSegsOf k f
      segs == ["core", "convert", "From"] || segs == ["core", "convert", "TryFrom"] || segs == ["core", "convert", "Into"] ||
      segs == ["core", "convert", "TryInto"] || segs == ["o2o", "traits", "IntoExisting"] || segs == ["o2o", "traits", "TryIntoExisting"]) = true := by
  decide +kernel

mutual
def Tok.idents : Tok → List String
  | .ident s => [s]
  | .group _ ts => Tok.identsList ts
  | _ => []
def Tok.identsList : List Tok → List String
  | [] => []
  | t :: ts => Tok.idents t ++ Tok.identsList ts
end

theorem identsList_append (a b : TS) : Tok.identsList (a ++ b) = Tok.identsList a ++ Tok.identsList b := by
  induction a with
  | nil => rfl
  | cons t ts ih => simp [Tok.identsList, ih, List.append_assoc]

mutual
theorem C20_subst_idents_tok (at_ tilde : TS) : ∀ t : Tok, ∀ s ∈ Tok.identsList (replaceTok at_ tilde t),
    s ∈ Tok.idents t ∨ s ∈ Tok.identsList at_ ∨ s ∈ Tok.identsList tilde
  | .ident x, s, h => by simp [replaceTok, Tok.identsList, Tok.idents] at h ⊢; exact Or.inl h
  | .lit x, s, h => by simp [replaceTok, Tok.identsList, Tok.idents] at h
  | .punct c jn, s, h => by
    unfold replaceTok at h
    split at h
    · exact Or.inr (Or.inr h)
    · split at h
      · exact Or.inr (Or.inl h)
      · simp [Tok.identsList, Tok.idents] at h
  | .group d ts, s, h => by
    have ih := C20_subst_idents at_ tilde ts s
    cases d <;> simp [replaceTok, Tok.identsList, Tok.idents] at h ⊢ <;> exact ih h
/-- C20-3: every identifier of a substituted user expression comes from the user's expression or from the two
    substituted paths (`value` / `self` and the member path) — substitution introduces nothing else -/
theorem C20_subst_idents (at_ tilde : TS) : ∀ ts : List Tok, ∀ s ∈ Tok.identsList (replaceList at_ tilde ts),
    s ∈ Tok.identsList ts ∨ s ∈ Tok.identsList at_ ∨ s ∈ Tok.identsList tilde
  | [], s, h => by simp [replaceList, Tok.identsList] at h
  | t :: ts, s, h => by
    simp only [replaceList, identsList_append, List.mem_append] at h
    simp only [Tok.identsList, List.mem_append]
    cases h with
    | inl h1 => exact (C20_subst_idents_tok at_ tilde t s h1).imp_left Or.inl
    | inr h2 => exact (C20_subst_idents at_ tilde ts s h2).imp_left Or.inr
end

end O2o
