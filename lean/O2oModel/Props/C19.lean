/-
C19 — expansion is a deterministic function of the input.
The model `derive` is a function, so determinism of the model is trivial; what has to be shown is that
modelling the code's `HashMap` / `HashSet`s as order-free containers is legitimate: (1) the sources never
iterate a hash container (inventory regenerated every run), (2) the association-list models used for the
two hash maps that survive in the code answer lookups independently of their internal order.
-/
import O2oModel.Expand
namespace O2o

/-- methods whose result does not depend on the iteration order of a hash container -/
def orderFreeMethods : List String := ["insert", "get", "get_mut", "contains", "contains_key", "remove", "len", "is_empty"]

/-- C19-1: every `HashMap` / `HashSet` binding or parameter in attr.rs, ast.rs, validate.rs, expand.rs is used only
    through order-free methods: none is iterated (`iter`, `into_iter`, `keys`, `values`, `drain`, `for … in`). -/
theorem C19_hash_uses : Gen.hashUses.all (fun u => u.methods.all orderFreeMethods.contains) = true := by decide +kernel

/-- C19-4: the sources name no clock, environment, file-system, process, thread or random-state API -/
theorem C19_no_env : Gen.envPaths = [] := by decide

/-- C19-3: same input, same result (the model has no other input) — stated for completeness -/
theorem C19_deterministic (b : Back) (inp₁ inp₂ : RawInput) (h : inp₁ = inp₂) : derive b inp₁ = derive b inp₂ := by
  rw [h]

def RepeatMap.keysDistinct : RepeatMap → Bool
  | [] => true
  | (k, _) :: rest => !(rest.any (·.1 == k)) && RepeatMap.keysDistinct rest

theorem keysDistinct_pairwise :
    ∀ m : RepeatMap, RepeatMap.keysDistinct m = true → m.Pairwise (fun a b => a.1 ≠ b.1)
  | [], _ => .nil
  | (k, _) :: rest, hd => by
    simp only [RepeatMap.keysDistinct, Bool.and_eq_true, Bool.not_eq_true', List.any_eq_false, beq_iff_eq] at hd
    exact .cons (fun b hb e => hd.1 b hb e.symm) (keysDistinct_pairwise rest hd.2)

/-- C19-2a: `trait_attrs_to_repeat.get(k)` is independent of the order of the entries -/
theorem C19_repeat_lookup_order_free (m m' : RepeatMap) (k : Appl × Bool) (h : List.Perm m m')
    (hd : RepeatMap.keysDistinct m = true) : RepeatMap.get? m k = RepeatMap.get? m' k := by
  have hp := keysDistinct_pairwise m hd
  unfold RepeatMap.get?
  -- the entries under `k` have pairwise different keys and all of them the key `k`: in both lists there is at most one
  rw [← List.head?_filter, ← List.head?_filter,
    (h.filter _).eq_of_pairwise ?_ (hp.filter _) ((hp.perm h Ne.symm).filter _)]
  intro a b ha hb hab
  simp only [List.mem_filter, beq_iff_eq] at ha hb
  exact absurd (ha.2.trans hb.2.symm) hab

/-- non-vacuity -/
example : RepeatMap.keysDistinct [(([true], false), default), (([false], false), default)] = true := by decide +kernel

end O2o
