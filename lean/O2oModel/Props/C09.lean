/-
C09 — literal / pattern instructions map enum variants to primitive values both ways.
Arm construction on the model; the runtime meaning of `match` (first arm that matches wins) is rustc's.
-/
import O2oModel.Lemmas.Blocks
namespace O2o

/-- C09-1: a variant carrying `#[literal(x)]` (and nothing else) converts into `x`: the Into arm is `Src::V <destr> => x,` -/
theorem C09_into_literal (v : Variant) (ctx : ImplContext) (l : LitAttr) (out : TS)
    (hk : ctx.kind.cls = .into)
    (ha : v.attrs.applicableAttr ctx.kind ctx.fallible ctx.ty = none)
    (hl : v.attrs.lit ctx.ty = some l) (hp : v.attrs.pat ctx.ty = none)
    (h : renderEnumLine v ctx = .ok out) :
    ∃ destr, out = ctx.srcTy ++ cc ++ [Tok.ident v.ident] ++ destr ++ fatArrow ++ l.tokens ++ [comma] := by
  unfold renderEnumLine at h
  simp only [ha, hl, hp, hk, bind_ok_iff, pure, Except.pure, Except.ok.injEq] at h
  obtain ⟨destr, _, _, _, h⟩ := h
  exact ⟨destr, h.symm⟩

/-- C09-2: the From arm of a `#[literal(x)]` variant is `x => Dst::V <init>,` and of a `#[pattern(p)]` variant
    `p => Dst::V <init>,` -/
theorem C09_from_literal (v : Variant) (ctx : ImplContext) (l : LitAttr) (out : TS)
    (hk : ctx.kind.cls = .from_)
    (ha : v.attrs.applicableAttr ctx.kind ctx.fallible ctx.ty = none)
    (hl : v.attrs.lit ctx.ty = some l) (hp : v.attrs.pat ctx.ty = none)
    (h : renderEnumLine v ctx = .ok out) :
    ∃ init, out = l.tokens ++ fatArrow ++ ctx.dstTy ++ cc ++ [Tok.ident v.ident] ++ init ++ [comma] := by
  unfold renderEnumLine at h
  simp only [ha, hl, hp, hk, bind_ok_iff, pure, Except.pure, Except.ok.injEq] at h
  obtain ⟨_, _, init, _, h⟩ := h
  exact ⟨init, h.symm⟩

theorem C09_from_pattern (v : Variant) (ctx : ImplContext) (pt : PatAttr) (out : TS)
    (hk : ctx.kind.cls = .from_)
    (ha : v.attrs.applicableAttr ctx.kind ctx.fallible ctx.ty = none)
    (hl : v.attrs.lit ctx.ty = none) (hp : v.attrs.pat ctx.ty = some pt)
    (h : renderEnumLine v ctx = .ok out) :
    ∃ init, out = pt.tokens ++ fatArrow ++ ctx.dstTy ++ cc ++ [Tok.ident v.ident] ++ init ++ [comma] := by
  unfold renderEnumLine at h
  simp only [ha, hl, hp, hk, bind_ok_iff, pure, Except.pure, Except.ok.injEq] at h
  obtain ⟨_, _, init, _, h⟩ := h
  exact ⟨init, h.symm⟩

/-- C09 (arms are tried in variant declaration order): the generated `match` lists one arm per contributing variant in
    declaration order, then the `#[ghosts]` arms, then the default arm — `rustc` tries them top to bottom -/
theorem C09_arms_in_declaration_order (input : Enum) (ctx : ImplContext) (out : TS) (h : enumInitBlock input ctx = .ok out) :
    ∃ arms ghostArms,
      (input.variants.filter (variantContributes ctx)).mapM (renderEnumLine · ctx) = .ok arms ∧
      (enumGhostData input ctx).mapM (renderEnumGhostLine · ctx) = .ok ghostArms ∧
      out = [Tok.group .brace (arms.flatten ++ ghostArms.flatten ++ defaultArm input ctx)] := by
  rw [enumInitBlock_eq] at h
  simp only [bind_ok_iff, pure, Except.pure, Except.ok.injEq] at h
  obtain ⟨arms, h1, gs, h2, h⟩ := h
  exact ⟨arms, gs, h1, h2, h.symm⟩

/-- C09 (default case, From side): the `_ => …` arm is emitted, as the last arm, whenever some variant carries a
    literal or a pattern -/
theorem C09_default_case_emitted (input : Enum) (ctx : ImplContext) (dc : TS)
    (hk : ctx.kind.isFrom = true) (hd : ctx.structAttr.defaultCase = some dc)
    (hv : input.variants.any (fun v => (v.attrs.lit ctx.ty).isSome || (v.attrs.pat ctx.ty).isSome) = true) :
    defaultArm input ctx = [Tok.ident "_"] ++ quoteAction dc none ctx := by
  simp [defaultArm, hd, hk, hv, i]

/-- without a default case nothing is added -/
theorem C09_no_default_case (input : Enum) (ctx : ImplContext) (hd : ctx.structAttr.defaultCase = none) :
    defaultArm input ctx = [] := by
  simp [defaultArm, hd]

/-- a variant that takes part through a `#[literal(..)]` only -/
def LiteralOnly (ctx : ImplContext) (v : Variant) : Prop :=
  v.attrs.applicableAttr ctx.kind ctx.fallible ctx.ty = none ∧ (v.attrs.lit ctx.ty).isSome ∧ v.attrs.pat ctx.ty = none

/-- the table the instructions designate: literal ↦ variant, in declaration order -/
def literalTable (ctx : ImplContext) (vs : List Variant) : List (TS × String) :=
  vs.filterMap fun v => (v.attrs.lit ctx.ty).map fun l => (l.tokens, v.ident)

/-- C09 (whole From `match`): for an enum whose contributing variants are all `#[literal]` variants, the k-th arm of
    the generated `match` is `literal_k => Dst::Variant_k <init>,` for the k-th contributing variant — the arm list *is*
    the designated table, in declaration order, for any number of variants -/
theorem C09_from_arm_table (input : Enum) (ctx : ImplContext) (arms : List TS)
    (hk : ctx.kind.cls = .from_)
    (hall : ∀ v ∈ input.variants.filter (variantContributes ctx), LiteralOnly ctx v)
    (h : (input.variants.filter (variantContributes ctx)).mapM (renderEnumLine · ctx) = .ok arms) :
    arms.length = (literalTable ctx (input.variants.filter (variantContributes ctx))).length ∧
    ∀ k (hk1 : k < arms.length) (hk2 : k < (literalTable ctx (input.variants.filter (variantContributes ctx))).length),
      ∃ init, arms[k] = (literalTable ctx (input.variants.filter (variantContributes ctx)))[k].1 ++ fatArrow ++ ctx.dstTy ++ cc ++
        [Tok.ident (literalTable ctx (input.variants.filter (variantContributes ctx)))[k].2] ++ init ++ [comma] := by
  generalize input.variants.filter (variantContributes ctx) = vs at hall h
  have htab : literalTable ctx vs = vs.map fun v => (((v.attrs.lit ctx.ty).map (·.tokens)).getD [], v.ident) := by
    clear h
    induction vs with
    | nil => rfl
    | cons v ws ih =>
      obtain ⟨l, hl⟩ := Option.isSome_iff_exists.mp (hall v List.mem_cons_self).2.1
      have := ih fun w hw => hall w (List.mem_cons_of_mem _ hw)
      unfold literalTable at this ⊢
      simp [hl, this]
  have hlen := mapM_ok_length h
  refine ⟨by rw [hlen, htab, List.length_map], fun k hk1 hk2 => ?_⟩
  have hkv : k < vs.length := hlen ▸ hk1
  obtain ⟨ha, hlit, hp⟩ := hall vs[k] (List.getElem_mem hkv)
  obtain ⟨l, hl⟩ := Option.isSome_iff_exists.mp hlit
  simp only [htab, List.getElem_map, hl, Option.map_some, Option.getD_some]
  exact C09_from_literal vs[k] ctx l arms[k] hk ha hl hp (mapM_ok_getElem h k hkv hk1)

/-- reading of a `match` whose patterns are literals: the first arm whose literal equals the scrutinee is taken -/
def firstMatch (table : List (TS × String)) (x : TS) : Option String := (table.find? (fun r => decide (r.1 = x))).map (·.2)

/-- C09 (values): with pairwise distinct literals every literal selects exactly its own variant; with a repeated
    literal the variant declared first wins (declaration order = arm order, `C09_from_arm_table`) -/
theorem C09_value_first_declared : ∀ (table : List (TS × String)) (row : TS × String), row ∈ table →
    ∃ v, firstMatch table row.1 = some v ∧ ((table.map (·.1)).Nodup → v = row.2) :=
  find_first_declared

end O2o
