/-
C16, continued: when does `derive` panic at all?

After the repairs (the last two: the variant's own `#[type_hint]` in `validate_parent_attrs`, and `validate_variant_arm`
for the former `todo!()` of `render_enum_line`) four sites are left, the `unreachable!`s of the member lines (`6`, `8`,
`18`, `19`). This file proves that they are reached only through a *collision of names*: a plain member (or a nested
field of a `#[parent(..)]` list) whose group key matches a level of the child path of another member or ghost, so that
it is drawn into that nested struct and rendered in a shape validation never looked at. For every input without such a
collision `derive` never panics (`C16_derive_never_panics_without_collision`); with one, only at these four sites
(`C16_derive_panics_only_with_collision`). `noKeyCollision` is a decidable test the driver evaluates on every parsed
input of the correspondence run (`FLAG id COLLISION`): the class of the four listed findings is "site + flag".
-/
import O2oModel.Props.C16c
import O2oModel.Props.C05
namespace O2o

/-- what a positional member needs when its line is written in struct shape -/
def PlainOK (f : Field) (ctx : ImplContext) : Prop :=
  fieldSkipped ctx f = false → ∀ n, f.member = .unnamed n →
    (f.attrs.applicableAttr ctx.kind ctx.fallible ctx.ty = none → f.attrs.hasParentAttr ctx.ty = true) ∧
    (∀ c, f.attrs.applicableAttr ctx.kind ctx.fallible ctx.ty = some (.field c) → ctx.kind.isFrom = false → c.member.isSome = true)

/-- what a positional nested field of a `#[parent(..)]` list needs when its line is written in struct shape -/
def PcOK (pc : ParentChildField) (k : Kind) : Prop :=
  ∀ n, pc.thisMember = .unnamed n → ∃ a, pc.getForKind k = some a ∧ a.thatMember.isSome = true

theorem structLine_np_ok (s : String) (f : Field) (ctx : ImplContext) (hint : TypeHint) (idx : Nat)
    (hs : fieldSkipped ctx f = false) (hok : hint = .struct → PlainOK f ctx) :
    NP s (renderStructLine f ctx hint idx none) :=
  structLine_np s f ctx hint idx hs
    (fun n hm hh ha hp => absurd ((hok hh hs n hm).1 ha) (by simp [hp]))
    (fun n c hm hh hnf ha hc => absurd ((hok hh hs n hm).2 c ha hnf) (by simp [hc]))

theorem parentLine_np_ok (s : String) (f : Field) (ctx : ImplContext) (hint : TypeHint) (idx : Nat) (pc : ParentChildField)
    (hok : hint = .struct → ctx.kind.isFrom = false → PcOK pc ctx.kind) :
    NP s (renderStructLine f ctx hint idx (some pc)) := by
  refine parentLine_np s f ctx hint idx pc (fun n a hm hh hnf hget hnone => ?_) (fun n hm hh hnf hget => ?_)
  · obtain ⟨a', hget', hthat⟩ := hok hh hnf n hm
    rw [hget] at hget'
    cases hget'
    simp [hnone] at hthat
  · obtain ⟨a', hget', _⟩ := hok hh hnf n hm
    rw [hget] at hget'
    cases hget'

theorem lineSites_not_descent (s : String) (hs : s ∈ lineSites) : ∀ site ∈ descentSites, site ≠ s := by
  intro site hsite e
  subst e
  simp only [descentSites, coreSites, List.drop_succ_cons, List.drop_zero, List.mem_cons, List.mem_nil_iff, or_false] at hsite
  -- nine sites against the four of `lineSites`, not four against nine: a third of the comparisons' setup
  rcases hsite with rfl | rfl | rfl | rfl | rfl | rfl | rfl | rfl | rfl <;> simp [lineSites] at hs

/-- the level being rendered is written in the counterpart's own shape, or — in an Into / IntoExisting conversion — it is
    a level of one of the listed child paths, written in the shape its `#[child_parents]` entry gives -/
def LevelOK (ctx : ImplContext) (L : List ChildPath) (fctx : FieldCtx) : Prop :=
  hintOf ctx fctx = ctx.structAttr.typeHint ∨
  (ctx.kind.isFrom = false ∧ ∃ cp crc d key cd, fctx = some (cp, some crc, d) ∧ cp ∈ L ∧ cp.strs[d]? = some key ∧
    levelEntry ctx key = some cd ∧ crc.typeHint = cd.typeHint)

/-- what the descent relies on for one entry of the grouped member list, to keep the member lines off the four sites
    (`lineSites`); `L` lists the child paths of all entries (`containerPath`, WF.lean): the only paths a level can belong to -/
def GoodW (ctx : ImplContext) (L : List ChildPath) (fc : FieldContainer) : Prop :=
  (∀ cp, containerPath ctx fc = some cp → cp ∈ L) ∧
  match fc.fieldData with
  | .field f =>
    (ctx.structAttr.typeHint = .struct → PlainOK f ctx) ∧
    match f.attrs.child ctx.ty with
    | none => ctx.kind.isFrom = false → ∀ cp ∈ L, ∀ key ∈ cp.strs, pathMatches fc.path key = false
    | some ca =>
      (∀ cd, levelEntry ctx (ca.childPath.strs.getLast?.getD "") = some cd → cd.typeHint = .struct → PlainOK f ctx) ∧
      (ctx.kind.isFrom = false → ∀ cp ∈ L, ∀ d key, cp.strs[d]? = some key → pathMatches fc.path key = true →
        ¬ d < ca.childPath.strs.length - 1 → key = ca.childPath.strs.getLast?.getD "")
  | .ghostData _ => True
  | .parentChildField _ pc =>
    (∀ th, parentChildHint ctx ctx.structAttr.typeHint = .ok th → th = .struct → ctx.kind.isFrom = false → PcOK pc ctx.kind) ∧
    (ctx.kind.isFrom = false → ∀ cp ∈ L, ∀ key ∈ cp.strs, pathMatches fc.path key = false)

/-- where the level does not end at an entry, the entry's path matches the key of the level -/
theorem LevelOK.at_entry {ctx : ImplContext} {L : List ChildPath} {fctx : FieldCtx} {path : String}
    (h : LevelOK ctx L fctx) (hnb : levelBreak fctx path = .ok false) :
    hintOf ctx fctx = ctx.structAttr.typeHint ∨
    (ctx.kind.isFrom = false ∧ ∃ cp ∈ L, ∃ d key cd, fctx.map (·.2.2) = some d ∧ cp.strs[d]? = some key ∧
      pathMatches path key = true ∧ levelEntry ctx key = some cd ∧ hintOf ctx fctx = cd.typeHint) := by
  rcases h with hl | ⟨hnf, cp, crc, d, key, cd, rfl, hcp, hkey, hent, hcrc⟩
  · exact Or.inl hl
  · refine Or.inr ⟨hnf, cp, hcp, d, key, cd, rfl, hkey, ?_, hent, hcrc⟩
    simpa [levelBreak, ChildPath.getStr, hkey, bind, Except.bind, pure, Except.pure] using hnb

theorem childLineHint_eq (ctx : ImplContext) (ca : ChildAttr) (th : TypeHint) :
    childLineHint ctx ca th =
      if ctx.kind.isFrom then (match levelEntry ctx (ca.childPath.strs.getLast?.getD "") with | some cd => cd.typeHint | none => th) else th := by
  unfold childLineHint levelEntry
  cases ctx.input.attrs.childParentsAttr ctx.ty <;> rfl

/-- an entry whose key matches no level of a listed path (none does, in a From conversion) is read at the top level: its
    line is written in the counterpart's own shape -/
theorem LevelOK.top_hint {ctx : ImplContext} {L : List ChildPath} {fctx : FieldCtx} {path : String}
    (h : LevelOK ctx L fctx) (hnb : levelBreak fctx path = .ok false)
    (hnc : ctx.kind.isFrom = false → ∀ cp ∈ L, ∀ key ∈ cp.strs, pathMatches path key = false) :
    hintOf ctx fctx = ctx.structAttr.typeHint := by
  rcases h.at_entry hnb with hl | ⟨hnf, cp, hcp, d, key, cd, _, hkey, hm, _, _⟩
  · exact hl
  · rw [hnc hnf cp hcp key (List.mem_of_getElem? hkey)] at hm
    cases hm

/-- where the line of a flattened member is written (`hcond`: `render_child_fragment` writes it in a From conversion, and
    otherwise at the level its own path ends at), a struct shape is one that validation looked at for this member -/
theorem GoodW.childLine {ctx : ImplContext} {L : List ChildPath} {fc : FieldContainer} {f : Field} {ca : ChildAttr}
    {fctx : FieldCtx} (hg : GoodW ctx L fc) (hfd : fc.fieldData = .field f) (hca : f.attrs.child ctx.ty = some ca)
    (hlev : LevelOK ctx L fctx) (hnb : levelBreak fctx fc.path = .ok false)
    (hcond : ctx.kind.cls = .from_ ∨ deeperThan (fctx.map (·.2.2)) (ca.childPath.strs.length - 1) = false)
    (hstruct : childLineHint ctx ca (hintOf ctx fctx) = .struct) : PlainOK f ctx := by
  simp only [GoodW, hfd, hca] at hg
  obtain ⟨_, htopok, hown, hsep⟩ := hg
  rw [childLineHint_eq] at hstruct
  cases hfrom : ctx.kind.isFrom with
  | true =>
    -- the shape of the last level of the member's path, if that level has an entry
    simp only [hfrom, if_true] at hstruct
    cases hle : levelEntry ctx (ca.childPath.strs.getLast?.getD "") with
    | some cd => exact hown cd hle (by simpa [hle] using hstruct)
    | none =>
      rw [hle, hlev.top_hint hnb (fun hnf => by rw [hfrom] at hnf; cases hnf)] at hstruct
      exact htopok hstruct
  | false =>
    simp only [hfrom, Bool.false_eq_true, if_false] at hstruct
    rcases hlev.at_entry hnb with hl | ⟨_, cp, hcp, d, key, cd, hd, hkey, hm, hent, hhint⟩
    · exact htopok (hl ▸ hstruct)
    · -- the line is written at the level the member's own path ends at
      have hdn : ¬ d < ca.childPath.strs.length - 1 := by
        rcases hcond with hc | hc
        · rw [cls_from hc] at hfrom
          cases hfrom
        · simpa [hd, deeperThan] using hc
      rw [hsep hfrom cp hcp d key hkey hm hdn] at hent
      exact hown cd hent (hhint ▸ hstruct)

section
variable (s : String) (hB : ∀ site ∈ descentSites, site ≠ s)
include hB

variable (ctx : ImplContext) (L : List ChildPath) (hok : CtxOK s ctx)
include hok

/-- what the induction over the fuel carries here, one conjunct per function of the descent: the entries still to be read are
    `GoodW`, the level being rendered is `LevelOK` (for the loop, `th` is the shape that level is written in); the line handed
    to `render_child_fragment` is asked for only where it is written; a nested field of a `#[parent(..)]` list written
    struct-shaped outside From is `PcOK` -/
def BodyW (fuel : Nat) : Prop :=
  (∀ members named fctx, (∀ fc ∈ members, GoodW ctx L fc) → LevelOK ctx L fctx →
      NP s (structInitBlockInner fuel members named ctx fctx)) ∧
  (∀ members named fctx th frags idx, (∀ fc ∈ members, GoodW ctx L fc) → LevelOK ctx L fctx → th = hintOf ctx fctx →
      NP s (structInitLoop fuel members named ctx fctx th frags idx)) ∧
  (∀ cp fields depth th line, (∀ fc ∈ fields, GoodW ctx L fc) → cp ∈ L →
      ((ctx.kind.cls = .from_ ∨ deeperThan depth (cp.strs.length - 1) = false) → NP s (line ())) →
      NP s (renderChildFragment fuel cp fields ctx depth th line)) ∧
  (∀ field pc fields named depth lh idx, (∀ fc ∈ fields, GoodW ctx L fc) →
      (lh = .struct → ctx.kind.isFrom = false → PcOK pc ctx.kind) →
      NP s (renderParentChildFragment fuel field pc fields named ctx depth lh idx)) ∧
  (∀ cd fields named cp depth hint, (∀ fc ∈ fields, GoodW ctx L fc) → LevelOK ctx L (some (cp, some cd, depth)) →
      NP s (renderChild fuel cd fields named ctx cp depth hint)) ∧
  (∀ fields named cp depth, (∀ fc ∈ fields, GoodW ctx L fc) → cp ∈ L → ctx.kind.isFrom = false →
      NP s (renderExistingChild fuel fields named ctx cp depth))

theorem body_w : ∀ fuel, BodyW s ctx L fuel := by
  intro fuel
  -- the nine sites of the descent, each by name (in the order of `coreSites`)
  simp only [descentSites, coreSites, List.drop, List.forall_mem_cons] at hB
  obtain ⟨neCpa, neCd, neSub, neTy, neIdx, ne15, ne2, neGhost, neStr, _⟩ := hB
  induction fuel with
  | zero =>
    refine ⟨?_, ?_, ?_, ?_, ?_, ?_⟩
    · intros; unfold structInitBlockInner; exact NP.error_unsupported
    · intros; unfold structInitLoop; exact NP.error_unsupported
    · intros; unfold renderChildFragment; exact NP.error_unsupported
    · intros; unfold renderParentChildFragment; exact NP.error_unsupported
    · intros; unfold renderChild; exact NP.error_unsupported
    · intros; unfold renderExistingChild; exact NP.error_unsupported
  | succ fuel ih =>
    obtain ⟨ihInner, ihLoop, ihCF, ihPCF, ihChild, ihEx⟩ := ih
    have hstr : ∀ (cp : ChildPath) d, NP s (cp.getStr d) := fun cp d =>
      getStr_np s cp d (fun _ _ _ => neStr)
    refine ⟨?_, ?_, ?_, ?_, ?_, ?_⟩
    · intro members named fctx hgood hlev
      exact structInitBlockInner_np hok.2 (KeyOK.of_ne neStr _) (ihLoop _ _ _ _ _ _ hgood hlev rfl)
        (fun _ _ => ne2)
    · intro members named fctx th frags idx hgood hlev hth
      refine structInitLoop_np hok.1 (KeyOK.of_ne neStr _) hgood (fun l _ _ hl => ihLoop _ _ _ _ _ _ hl hlev hth)
        (fun fc rest _ hfcg hnb => ?_)
      subst hth
      split
      · rename_i f hfd
        intro hskip
        split
        · rename_i ca hca
          exact ihCF _ _ _ _ _ hgood (hfcg.1 _ (by simp [containerPath, hfd, hca]))
            (fun hcond => structLine_np_ok s _ _ _ _ hskip (hfcg.childLine hfd hca hlev hnb hcond))
        · rename_i hca
          simp only [GoodW, hfd, hca] at hfcg
          exact structLine_np_ok s _ _ _ _ hskip (fun hstruct => hfcg.2.1 (hlev.top_hint hnb hfcg.2.2 ▸ hstruct))
      · rename_i g hfd
        split
        · rename_i cp hcp
          exact ihCF _ _ _ _ _ hgood (hfcg.1 _ (by simp [containerPath, hfd, hcp])) (fun _ => NP.ok)
        · exact neGhost
      · rename_i f pc hfd
        simp only [GoodW, hfd] at hfcg
        intro th' hth'
        rw [hlev.top_hint hnb hfcg.2.2] at hth'
        exact ihPCF _ _ _ _ _ _ _ hgood (hfcg.2.1 th' hth')
    · intro cp fields depth th line hgood hcpL hline
      refine renderChildFragment_np hok.1 hline (fun _ hcls => ⟨fun _ => neCpa, hstr _ _, fun key hkey => ?_⟩)
        (fun _ hcls _ => ihEx _ _ _ _ hgood hcpL (cls_not_from (Or.inr hcls)))
      split
      · exact neCd
      · rename_i cd hcd
        exact fun _ => ihChild _ _ _ _ _ _ hgood (Or.inr ⟨cls_into_not_from hcls, cp, _, _, key, cd, rfl, hcpL, hkey, hcd, rfl⟩)
    · intro field pc fields named depth lh idx hgood hpc
      exact renderParentChildFragment_np hok.1 (parentLine_np_ok s _ _ _ _ _ hpc)
        (fun _ _ => ⟨fun _ _ _ _ => neSub, fun _ _ => neTy,
          fun _ _ => ihChild _ _ _ _ _ _ hgood (Or.inl rfl)⟩)
    · intro cd fields named cp depth hint hgood hlev
      exact renderChild_np hok.1 (fun _ => neIdx)
        (ihInner _ _ _ hgood hlev) (fun _ => ne15)
    · intro fields named cp depth hgood hcpL hnf
      refine renderExistingChild_np (hstr _ _) (fun key hkey => ihInner _ _ _ hgood ?_)
      cases hle : levelEntry ctx key with
      | none => exact Or.inl rfl
      | some cd => exact Or.inr ⟨hnf, cp, _, _, key, cd, rfl, hcpL, hkey, hle, rfl⟩

end

/-- the per-member check of the two "tuple struct written `as {}`" rules: a member that passes it meets `PlainOK` -/
theorem plainOK_of_check (f : Field) (ctx : ImplContext) (msg : String)
    (h : ∀ m, ¬ ∀ es, m ∈ memberNameCheck f ctx.ty ctx.kind ctx.fallible msg es) : PlainOK f ctx := by
  -- for a member with neither ghost nor parent instruction the check reads the instruction the line is written from
  -- (`C05_three_views_agree`): there is one, and outside From conversions it names the counterpart's field
  have key : f.attrs.ghost ctx.ty ctx.kind = none → f.attrs.hasParentAttr ctx.ty = false →
      ∃ fa : MemberAttr, f.attrs.applicableAttr ctx.kind ctx.fallible ctx.ty = some (.field fa.attr) ∧
        (ctx.kind.isFrom = false → fa.attr.member.isSome = true) := by
    intro hg hp
    rw [← C05_three_views_agree _ _ _ _ hg]
    cases hx : f.attrs.applicableFieldAttr ctx.kind ctx.fallible ctx.ty with
    | none =>
      refine (h msg fun es => ?_).elim
      simp only [memberNameCheck, hg, hp, hx, Option.isSome_none, Bool.or_self, Bool.false_eq_true, if_false]
      exact mem_insert_self
    | some fa =>
      refine ⟨fa, rfl, fun hnf => ?_⟩
      cases hm : fa.attr.member with
      | some m => rfl
      | none =>
        refine (h ?_ fun es => ?mem).elim
        case mem =>
          simp only [memberNameCheck, hg, hp, hx, hnf, hm, Option.isSome_none, Bool.or_self, Bool.false_eq_true, if_false,
            Option.isNone_none, if_true]
          exact mem_insert_self
  intro hskip n _
  refine ⟨fun hnone => ?_, fun c hc hnf => ?_⟩
  · cases hp : f.attrs.hasParentAttr ctx.ty with
    | true => rfl
    | false =>
      cases hg : f.attrs.ghost ctx.ty ctx.kind with
      | some g => rw [(applicableAttr_ghost_iff (fallible := ctx.fallible)).mpr hg] at hnone; cases hnone
      | none =>
        obtain ⟨fa, hfa, _⟩ := key hg hp
        rw [hnone] at hfa
        cases hfa
  · simp only [fieldSkipped, hnf, Bool.not_false, Bool.true_and, Bool.false_and, Bool.or_false, Bool.or_eq_false_iff,
      Option.isSome_eq_false_iff, Option.isNone_iff_eq_none] at hskip
    obtain ⟨fa, hfa, hm⟩ := key hskip.1 hskip.2
    rw [hc] at hfa
    cases hfa
    exact hm hnf

theorem parentInForce_eq (pas : List ParentAttr) (ty : TypePath) :
    parentInForce pas ty = findDedicatedOrDefault pas (·.childFields.isSome) (·.containerTy) ty := by
  unfold parentInForce findDedicatedOrDefault
  congr 1

/-- the rule of fix 2814c57; `hacc` is what `not_reported` gives through `validate_of_parentAttrs` for a struct member and
    through `validate_of_payload` for a payload member -/
theorem pcOK_of_accepted (named : Bool) (wa : List (TraitAttrCore × Kind × TypeHint)) (pas : List ParentAttr)
    (byKind : List (TraitAttrCore × Kind)) (hacc : ∀ m, ¬ ∀ es, m ∈ validateParentAttrs named wa pas byKind es)
    (a : TraitAttrCore) (k : Kind) (th : TypeHint) (hx : (a, k, th) ∈ wa)
    (hk : k.isFrom = false) (hq : a.quickReturn = none)
    (hshape : (th == .struct || (th == .unspecified && named)) = true)
    (ps : List ParentChildField) (hps : (findDedicatedOrDefault pas (·.childFields.isSome) (·.containerTy) a.ty).bind (·.childFields) = some ps)
    (pc : ParentChildField) (hpc : pc ∈ ps) : PcOK pc k := by
  intro n hn
  cases hbad : (match pc.getForKind k with | some x => x.thatMember.isNone | none => true) with
  | false =>
    cases hg : pc.getForKind k with
    | none => simp [hg] at hbad
    | some x => exact ⟨x, rfl, by simpa [hg] using hbad⟩
  | true =>
    have hmem : (a, k, th) ∈ wa.filter (fun (x : TraitAttrCore × Kind × TypeHint) => !x.2.1.isFrom && x.1.quickReturn.isNone) := by
      simp only [List.mem_filter]
      exact ⟨hx, by simp [hk, hq]⟩
    have hpcf : pc ∈ ps.filter (fun f => !f.namedFields && (match f.getForKind k with | some a => a.thatMember.isNone | none => true)) := by
      simp only [List.mem_filter]
      exact ⟨hpc, by simp [hbad, ParentChildField.namedFields, hn, Member.isNamed]⟩
    rw [← parentInForce_eq] at hps
    refine (hacc (nestedNameMsg pc a) fun es => ?_).elim
    rw [validateParentAttrs_stages]
    refine ext_validateParentAttrs named [] pas byKind _ _ ?_
    refine mem_foldl_of_step hmem (fun y es => ext_nestedNamePass named pas y es _) (fun es => ?_)
    simp only [nestedNamePass, hshape, hps]
    exact mem_foldl_of_step hpcf (fun y es hm => mem_insert_of_mem hm) (fun es => mem_insert_self)

/-- the members of a named-field struct or variant are named (`shapeWF`): `PlainOK` asks nothing of them -/
theorem plainOK_of_named {named : Bool} {fields : List Field} (h : (!named || fields.all (·.member.isNamed)) = true)
    (hn : named = true) {f : Field} (hf : f ∈ fields) (ctx : ImplContext) : PlainOK f ctx := by
  intro _ n hm
  simp only [hn, Bool.not_true, Bool.false_or, List.all_eq_true] at h
  have := h f hf
  simp [hm, Member.isNamed] at this

/-- a member of a struct that validation accepts meets `PlainOK` wherever its line can be written in struct shape: under
    an `as {}` counterpart, or flattened into a nested struct written `as {}` -/
theorem struct_plainOK (st : Struct) (hv : validate (.struct st) = []) (hshape : (DataType.struct st).shapeWF = true)
    (ctx : ImplContext) (hctx : CtxOf (.struct st) ctx) (hq : ctx.structAttr.quickReturn = none)
    (f : Field) (hf : f ∈ st.fields)
    (hcond : ctx.structAttr.typeHint = .struct ∨ nestedStructShaped st ctx.ty f = true) : PlainOK f ctx := by
  cases hn : st.namedFields with
  | true => exact plainOK_of_named hshape hn hf ctx
  | false =>
    obtain ⟨ta, hta, hcore, hfl⟩ := hctx.2.2
    -- the message is the one the name rule has for this member under this trait instruction
    refine plainOK_of_check f ctx ?msg (fun m hm => not_reported hv (m := m) ?rep)
    case rep =>
      refine validate_of_namePass st hn (ta, ctx.kind) hta m (fun es => ?_)
      unfold namePass
      simp only [hcore, hfl, hq, Option.isNone_none, if_true]
      refine mem_foldl_of_step hf (fun y es hm' => ext_ite _ ext_id (ext_memberNameCheck _ _ _ _ _) es m hm') (fun es => ?_)
      have : (ctx.structAttr.typeHint != TypeHint.struct && !nestedStructShaped st ctx.structAttr.ty f) = false := by
        rcases hcond with h | h
        · simp [h]
        · simp [show nestedStructShaped st ctx.structAttr.ty f = true from h]
      simp only [this, Bool.false_eq_true, if_false]
      exact hm es

theorem parentChildHint_struct {ctx : ImplContext} {st : Struct} (hin : ctx.input = .struct st) {hint th : TypeHint}
    (h : parentChildHint ctx hint = .ok th) (hs : th = .struct) :
    (hint == .struct || (hint == .unspecified && st.namedFields)) = true := by
  unfold parentChildHint at h
  cases hint <;> simp [hin, DataType.namedFields, bind, Except.bind, pure, Except.pure] at h <;> simp_all

theorem nestedStructShaped_of_entry {st : Struct} {ctx : ImplContext} (hin : ctx.input = .struct st) {f : Field} {ca : ChildAttr}
    (hca : f.attrs.child ctx.ty = some ca) {cd : ChildParentData}
    (hle : levelEntry ctx (ca.childPath.strs.getLast?.getD "") = some cd) (hs : cd.typeHint = .struct) :
    nestedStructShaped st ctx.ty f = true := by
  have hattrs : ctx.input.attrs = st.attrs := by rw [hin]; rfl
  unfold nestedStructShaped
  simp only [hca]
  unfold levelEntry at hle
  rw [hattrs] at hle
  simp [hle, hs]

theorem noCollisionAt_entry {st : Struct} {ctx : ImplContext} (h : noCollisionAt st ctx = true) {fc : FieldContainer}
    (hfc : fc ∈ groupedMembers st ctx) (cp : ChildPath) (hcp : cp ∈ (groupedMembers st ctx).filterMap (containerPath ctx)) :
    match fc.fieldData with
    | .field f =>
      match f.attrs.child ctx.ty with
      | none => ∀ key ∈ cp.strs, pathMatches fc.path key = false
      | some ca => ∀ d key, cp.strs[d]? = some key → pathMatches fc.path key = true →
          ¬ d < ca.childPath.strs.length - 1 → key = ca.childPath.strs.getLast?.getD ""
    | .ghostData _ => True
    | .parentChildField _ _ => ∀ key ∈ cp.strs, pathMatches fc.path key = false := by
  simp only [noCollisionAt, List.all_eq_true] at h
  have h := h fc hfc
  split
  · rename_i f hfd
    simp only [hfd] at h
    split
    · rename_i hca
      simp only [hca, List.all_eq_true] at h
      exact fun key hkey => by simpa using h cp hcp key hkey
    · rename_i ca hca
      simp only [hca, List.all_eq_true] at h
      intro d key hkey hm hnd
      have hd : d < cp.strs.length := (List.getElem?_eq_some_iff.mp hkey).1
      simpa [hkey, hm, hnd] using h cp hcp d (List.mem_range.mpr hd)
  · trivial
  · rename_i hfd
    simp only [hfd, List.all_eq_true] at h
    exact fun key hkey => by simpa using h cp hcp key hkey

/-- every entry of the grouped member list of a struct that validation accepts is good for the descent with the member
    lines closed, provided no names collide in this conversion -/
theorem goodW_struct (st : Struct) (hv : validate (.struct st) = []) (hshape : (DataType.struct st).shapeWF = true)
    (ctx : ImplContext) (hctx : CtxOf (.struct st) ctx) (hq : ctx.structAttr.quickReturn = none)
    (hnc : ctx.kind.isFrom = false → noCollisionAt st ctx = true)
    (fc : FieldContainer) (hfc : fc ∈ groupedMembers st ctx) :
    GoodW ctx ((groupedMembers st ctx).filterMap (containerPath ctx)) fc := by
  have hnc' := fun hnf => noCollisionAt_entry (hnc hnf) hfc
  refine ⟨fun cp hcp => List.mem_filterMap.mpr ⟨fc, hfc, hcp⟩, ?_⟩
  rcases groupedMembers_from st ctx fc hfc with ⟨x, hx, hfd⟩ | ⟨_, _, g, _, _, _, hfd⟩ | ⟨x, hx, ps, pc, hps, hpc, hfd⟩
  · simp only [hfd] at hnc' ⊢
    refine ⟨fun hs => struct_plainOK st hv hshape ctx hctx hq x hx (Or.inl hs), ?_⟩
    cases hca : x.attrs.child ctx.ty with
    | none =>
      simp only [hca] at hnc' ⊢
      exact hnc'
    | some ca =>
      simp only [hca] at hnc' ⊢
      exact ⟨fun cd hle hs => struct_plainOK st hv hshape ctx hctx hq x hx
        (Or.inr (nestedStructShaped_of_entry hctx.1 hca hle hs)), hnc'⟩
  · simp only [hfd]
  · simp only [hfd] at hnc' ⊢
    refine ⟨fun th hth hs hnf => ?_, hnc'⟩
    exact pcOK_of_accepted _ _ _ _ (fun m h => not_reported hv (validate_of_parentAttrs st x hx m h)) ctx.structAttr ctx.kind
      ctx.structAttr.typeHint (List.mem_map.mpr ⟨(ctx.structAttr, ctx.kind), hctx.2.1, rfl⟩) hnf hq
      (parentChildHint_struct hctx.1 hth hs) ps hps pc hpc

/-- every entry of the grouped member list of a variant of an enum that validation accepts is good for the descent with
    the member lines closed (a variant has no nested structs: no names can collide) -/
theorem goodW_variant (e : Enum) (hv : validate (.enum e) = []) (hshape : (DataType.enum e).shapeWF = true)
    (v : Variant) (hvm : v ∈ e.variants) (nctx : ImplContext) (hin : nctx.input = .struct (variantStructOf v))
    (ta : TraitAttr) (hta : (ta, nctx.kind) ∈ traitAttrsByKind e.attrs) (hby : (ta.core, nctx.kind) ∈ attrsByKind e.attrs)
    (hfl : ta.fallible = nctx.fallible) (hty : nctx.ty = ta.core.ty) (hq : ta.core.quickReturn = none)
    (hhint : nctx.structAttr.typeHint = variantHintFor v ta.core) (hbody : variantHasBody v ta nctx.kind = true)
    (fc : FieldContainer) (hfc : fc ∈ groupedMembers (variantStructOf v) nctx) : GoodW nctx [] fc := by
  rcases variant_entries e hv v hvm nctx fc hfc with ⟨x, hx, hfd, hnone⟩ | ⟨x, hx, ps, pc, hps, hpc, hfd⟩
  · refine ⟨fun cp hcp => by simp [containerPath, hfd, hnone] at hcp, ?_⟩
    simp only [hfd, hnone]
    refine ⟨fun hs => ?_, fun _ cp hcp => by cases hcp⟩
    cases hn : v.namedFields with
    | true => exact plainOK_of_named (List.all_eq_true.mp hshape v hvm) hn hx nctx
    | false =>
      -- the message is the one `validate_variant_fields` has for this member under this trait instruction
      refine plainOK_of_check x nctx ?msg (fun m hm => not_reported hv (m := m) ?rep)
      case rep =>
        refine validate_of_end _ m (fun es => mem_foldl_of_step hvm (fun y es hm' => ext_validateVariantFields y _ es _ hm') (fun es => ?_))
        unfold validateVariantFields
        simp only [hn, Bool.not_false, if_true]
        refine mem_foldl_of_step hta (fun x es hm' => ext_variantNamePass v x.1 x.2 es _ hm') (fun es => ?_)
        unfold variantNamePass
        have hh : ((v.attrs.typeHint ta.core.ty).map (·.typeHint)).getD .unspecified = .struct := hhint.symm.trans hs
        simp only [hq, Option.isNone_none, hh, beq_self_eq_true, Bool.and_self, if_true]
        rw [← hty, hfl]
        refine mem_foldl_of_step hx (fun y es hm' => ext_memberNameCheck _ _ _ _ _ _ _ hm') ?_
        exact hm
  · refine ⟨fun cp hcp => by simp [containerPath, hfd] at hcp, ?_⟩
    simp only [hfd]
    refine ⟨fun th hth hs hnf => ?_, fun _ cp hcp => by cases hcp⟩
    have hshape' := parentChildHint_struct hin hth hs
    rw [hhint] at hshape'
    exact pcOK_of_accepted v.namedFields (variantWrittenAs v (DataType.enum e).attrs) _ (attrsByKind e.attrs)
      (fun m h => not_reported hv (validate_of_payload e v hvm x hx .parentAttrs m h)) ta.core nctx.kind
      (variantHintFor v ta.core) (List.mem_map.mpr ⟨(ta, nctx.kind), List.mem_filter.mpr ⟨hta, hbody⟩, rfl⟩) hnf hq hshape' ps
      (hty ▸ hps) pc hpc

theorem structInitBlock_np_w (s : String) (hs : s ∈ lineSites) (input : Struct) (ctx : ImplContext)
    (hin : ctx.input.isEnum = false) (L : List ChildPath)
    (hgood : ∀ fc ∈ groupedMembers input ctx, GoodW ctx L fc) : NP s (structInitBlock input ctx) := by
  have hok : CtxOK s ctx := ⟨hin, ghostsOK_of_ne s (fun e => by rw [← e] at hs; simp [lineSites] at hs) _⟩
  unfold structInitBlock
  split
  · exact NP.pure
  · exact NP.bind ((body_w s (lineSites_not_descent s hs) ctx L hok _).1 _ _ _ hgood (Or.inl rfl)) (fun _ => NP.pure)

theorem structInitBlock_np_f (s : String) (hs : s ∈ findingSites) (input : Struct) (ctx : ImplContext)
    (hin : ctx.input.isEnum = false) (L : List ChildPath)
    (hgood : s ∈ lineSites → ∀ fc ∈ groupedMembers input ctx, GoodW ctx L fc) : NP s (structInitBlock input ctx) := by
  simp only [findingSites, List.mem_append, List.mem_cons, List.mem_nil_iff, or_false] at hs
  rcases hs with hs | rfl
  · exact structInitBlock_np_w s hs input ctx hin L (hgood hs)
  · exact structInitBlock_np_core _ (by simp [coreSites]) input ctx ⟨hin, ghostsOK_of_ne _ (by simp) _⟩

theorem variantContributes_eq (ctx : ImplContext) (v : Variant) : variantContributes ctx v = variantHasArm v ctx.ty ctx.kind := by
  unfold variantContributes variantHasArm ghostNoDefault
  cases hg : v.attrs.ghost ctx.ty ctx.kind with
  | none => simp
  | some g => cases hf : ctx.kind.isFrom <;> cases ha : g.action <;> simp

theorem ext_variantArmStep (v : Variant) (x : TraitAttr × Kind) : Ext (fun es => variantArmStep v es x) := by
  unfold variantArmStep
  exact ext_ite _ ext_id (ext_ite _ (ext_insert _) (ext_ite _ (ext_ite _ (ext_insert _) ext_id) (ext_insert _)))

theorem variantArm_reported (e : Enum) (hv : validate (.enum e) = []) (v : Variant) (hvm : v ∈ e.variants)
    (x : TraitAttr × Kind) (hx : x ∈ traitAttrsByKind e.attrs) (m : String) (hstep : ∀ es, m ∈ variantArmStep v es x) :
    m ∈ validateAll (.enum e) := by
  unfold validateAll
  simp only [hv]
  exact mem_foldl_of_step hvm (fun y es hm => ext_foldl (ext_variantArmStep y) es m hm)
    (fun es => mem_foldl_of_step hx (fun z es hm => ext_variantArmStep v z es m hm) hstep)

/-- what the last check of validation establishes: every variant that has an arm in a conversion has a combination of
    variant-level instruction, literal and pattern that `render_enum_line` can write -/
theorem variantArm_supported (e : Enum) (hva : validateAll (.enum e) = []) (v : Variant) (hvm : v ∈ e.variants)
    (ta : TraitAttr) (k : Kind) (hta : (ta, k) ∈ traitAttrsByKind e.attrs) (hq : ta.core.quickReturn = none)
    (harm : variantHasArm v ta.core.ty k = true) :
    enumArmSupported (v.attrs.applicableAttr k ta.fallible ta.core.ty).isSome (v.attrs.lit ta.core.ty).isSome
      (v.attrs.pat ta.core.ty).isSome k = true := by
  cases hsup : enumArmSupported (v.attrs.applicableAttr k ta.fallible ta.core.ty).isSome (v.attrs.lit ta.core.ty).isSome
      (v.attrs.pat ta.core.ty).isSome k with
  | true => rfl
  | false =>
    -- an arm that cannot be written is reported; in an into_existing conversion every arm is (fix 4d98551)
    have hrep : ∃ m, ∀ es, m ∈ variantArmStep v es (ta, k) := by
      simp only [variantArmStep, hq, Option.isSome_none, harm, Bool.not_true, Bool.or_self, Bool.false_eq_true, if_false, hsup]
      split
      · exact ⟨_, fun _ => mem_insert_self⟩
      · exact ⟨_, fun _ => mem_insert_self⟩
    obtain ⟨m, hm⟩ := hrep
    have := variantArm_reported e (validate_of_validateAll_nil _ hva) v hvm (ta, k) hta m hm
    rw [hva] at this
    cases this

section
variable (s : String) (hs : s ∈ findingSites)
include hs

theorem renderEnumLine_w (e : Enum) (hva : validateAll (.enum e) = []) (hshape : (DataType.enum e).shapeWF = true)
    (v : Variant) (hvm : v ∈ e.variants) (ctx : ImplContext)
    (hc : CtxOf (.enum e) ctx) (hq : ctx.structAttr.quickReturn = none) (hcon : variantContributes ctx v = true) :
    NP s (renderEnumLine v ctx) := by
  have hv := validate_of_validateAll_nil _ hva
  obtain ⟨_, hby, ta, hta, hcore, hfl⟩ := hc
  have hok : GhostsOK s v.attrs.ghostsAttrs := ghostsOK_of_ne s (fun e => by rw [← e] at hs; simp [findingSites, lineSites] at hs) _
  have harm : variantHasArm v ctx.ty ctx.kind = true := by rw [variantContributes_eq] at hcon; exact hcon
  have hsup := variantArm_supported e hva v hvm ta ctx.kind hta (by rw [hcore]; exact hq) (by rw [hcore]; exact harm)
  rw [hcore, hfl] at hsup
  refine renderEnumLine_np s v ctx hcon hok (fun hna => ?_) (Or.inr hsup)
  refine structInitBlock_np_f s hs _ _ rfl [] (fun _ fc hfc => ?_)
  refine goodW_variant e hv hshape v hvm (variantCtx v ctx) rfl ta hta (hcore ▸ hby) hfl (by rw [hcore]; rfl) (by rw [hcore]; exact hq)
    (by rw [variantCtx_typeHint, hcore]) ?_ fc hfc
  -- the body is written: the variant has an arm, and its instruction does not give the whole right side
  unfold variantHasBody
  rw [hcore, hfl]
  exact (Bool.and_eq_true _ _).mpr ⟨harm, (Bool.not_eq_true' _).mpr hna⟩
end

/-- the expansion of a validated input, at one of the five former finding sites: the collision hypothesis is needed for
    the four line sites only -/
theorem dataTypeImpls_np_f (input : DataType) (hva : validateAll input = []) (hshape : input.shapeWF = true) (s : String)
    (hs : s ∈ findingSites) (hnc : s ∈ lineSites → input.noKeyCollision = true) : NP s (dataTypeImpls input) := by
  have hv := validate_of_validateAll_nil _ hva
  obtain ⟨_, _, h17, herr⟩ := validated_np s input hv
  refine dataTypeImpls_np s input (fun ctx _ => postInitOf_v s input hv ctx) (fun ctx hctx hq b st hst => ?_)
    (fun ctx hctx hq b e he v hvm hc => ?_) h17 herr
  · subst hst
    have hcof := ctxOf_of_mem ctx hctx
    refine structInitBlock_np_f s hs st _ (by simp [DataType.isEnum, hcof.1]) _
      (fun hl fc hfc => goodW_struct st hv hshape _ hcof hq (fun hnf => ?_) fc hfc)
    have := hnc hl
    simp only [DataType.noKeyCollision, List.all_eq_true] at this
    simpa [show ctx.kind.isFrom = false from hnf] using this ctx hctx
  · subst he
    exact renderEnumLine_w s hs e hva hshape v hvm _ (ctxOf_of_mem ctx hctx) hq hc

/-- **C16 (validated inputs): a panic of the expansion needs a collision of names, and is then at one of the four line
    sites.** For every parsed input that validation accepts, whose child paths are as the parser builds them and whose
    named-field containers carry named members: if generating the impls panics, then names collide in the input
    (`noKeyCollision = false`: a plain member, or a nested field of a `#[parent(..)]` list, has a key that matches a
    level of the child path of another member or ghost) and the site is one of the four `unreachable!`s of the member
    lines — `("6")`, `("8")`, `("18")`, `("19")`, the listed findings. The `todo!()` of `render_enum_line` is closed by
    validation (`validate_variant_arm`). -/
theorem C16_validated_only_line_sites (input : DataType) (hva : validateAll input = []) (hwf : input.pathsWF = true)
    (hshape : input.shapeWF = true) (s : String) (h : dataTypeImpls input = .error (.panic s)) :
    s ∈ lineSites ∧ input.noKeyCollision = false := by
  have hs := C16_validated_only_findings input (validate_of_validateAll_nil _ hva) hwf s h
  -- if not, the hypothesis of `dataTypeImpls_np_f` is met, and there is no panic at `s`
  refine Decidable.byContradiction fun hcon => dataTypeImpls_np_f input hva hshape s hs (fun hl => ?_) h
  cases hn : input.noKeyCollision with
  | true => rfl
  | false => exact absurd ⟨hl, hn⟩ hcon

/-- **C16 (validated inputs without a collision of names): the expansion never panics** — no `unwrap()`,
    `unreachable!`, `todo!()`, `panic!` or index out of range of `expand.rs`, `attr.rs` or `ast.rs` is reached. -/
theorem C16_validated_no_collision_never_panics (input : DataType) (hva : validateAll input = []) (hwf : input.pathsWF = true)
    (hshape : input.shapeWF = true) (hnc : input.noKeyCollision = true) (s : String) :
    dataTypeImpls input ≠ .error (.panic s) := by
  intro h
  have := (C16_validated_only_line_sites input hva hwf hshape s h).2
  rw [hnc] at this
  cases this

/-- **C16 (the derive as a whole).** When the attribute parser accepts an input whose named-field containers have named
    fields (`RawInput.shapeWF`: what `syn` hands over), then whatever `derive` does — report diagnostics, or expand — it
    panics only if names collide in the input, and then at one of the four `unreachable!`s of the member lines. -/
theorem C16_derive_panics_only_with_collision (b : Back) (node : RawInput) (input : DataType)
    (hp : parseInput b node = some input) (hraw : node.shapeWF = true)
    (s : String) (h : derive b node = .panic s) : s ∈ lineSites ∧ input.noKeyCollision = false := by
  obtain ⟨hva, hd⟩ := derive_panic_inv hp h
  exact C16_validated_only_line_sites input hva (parseInput_pathsWF b node input hp) (parseInput_shapeWF b node input hp hraw) s hd

/-- **C16 (the derive as a whole, inputs without a collision of names): `derive` never panics.** -/
theorem C16_derive_never_panics_without_collision (b : Back) (node : RawInput) (input : DataType)
    (hp : parseInput b node = some input) (hraw : node.shapeWF = true) (hnc : input.noKeyCollision = true)
    (s : String) : derive b node ≠ .panic s := by
  intro h
  have := (C16_derive_panics_only_with_collision b node input hp hraw s h).2
  rw [hnc] at this
  cases this

/-- non-vacuity: the flattened struct of `exFlatStruct` meets every hypothesis -/
example : validateAll exFlatStruct = [] ∧ exFlatStruct.pathsWF = true ∧ exFlatStruct.shapeWF = true ∧ exFlatStruct.noKeyCollision = true := by
  decide +kernel

/-- `#[owned_into(A)] #[child_parents(1: P as {})] struct S(#[child(1)] #[map(x)] i32, i32);` as a parsed input: the plain
    member `1` has the key of the nested struct `1` -/
def exCollide : DataType :=
  let ta : TypePath := { path := [Tok.ident "A"], pathStr := "A", generics := none, namelessTuple := false }
  .struct {
    attrs := {
      attrs := [{ core := { ty := ta, errTy := none, typeHint := .unspecified }, fallible := false,
                  appl := [true, false, false, false, false, false] }],
      childParentsAttrs := [{ containerTy := none, childParents := [{ ty := [Tok.ident "P"], typeHint := .struct, fieldPath := [Member.unnamed 1], fieldPathStr := "1" }] }] },
    ident := "S", generics := [],
    fields := [
      { attrs := { childAttrs := [{ containerTy := none, childPath := ChildPath.ofMembers [Member.unnamed 1] }],
                   attrs := [{ attr := { containerTy := none, member := some (.named "x"), action := none }, fallible := false, originalInstr := "map",
                               appl := [true, true, true, true, true, true] }] },
        idx := 0, member := .unnamed 0, memberStr := "0", ty := none },
      { attrs := {}, idx := 1, member := .unnamed 1, memberStr := "1", ty := none }],
    namedFields := false, unit := false }

/-- the witness is accepted by validation, meets the two well-formedness hypotheses, has a collision of names — and
    its expansion stops at `unreachable!("6")` (the listed finding `C16-unreachable-6`; the same input panics in the real
    derive, `KNOWN_FINDINGS.json`) -/
example : validateAll exCollide = [] ∧ exCollide.pathsWF = true ∧ exCollide.shapeWF = true ∧ exCollide.noKeyCollision = false := by decide +kernel

example : (match dataTypeImpls exCollide with
    | .error (.panic s) => s == "expand.rs:render_struct_line:unreachable(6)"
    | _ => false) = true := by decide +kernel

/-- no member is flattened (`#[child(..)]`) and no struct-level ghost is addressed to a nested struct (`path@name`) -/
def DataType.noNesting (d : DataType) : Bool :=
  match d with
  | .struct s => s.fields.all (·.attrs.childAttrs.isEmpty) &&
      s.attrs.ghostsAttrs.all fun ga => ga.attr.ghostData.all (·.childPath.isNone)
  | .enum _ => true

theorem noKeyCollision_of_noNesting (d : DataType) (h : d.noNesting = true) : d.noKeyCollision = true := by
  cases d with
  | enum e => rfl
  | struct st =>
    simp only [DataType.noNesting, Bool.and_eq_true, List.all_eq_true] at h
    obtain ⟨hf, hg⟩ := h
    simp only [DataType.noKeyCollision, List.all_eq_true, Bool.or_eq_true]
    intro ctx _
    right
    have hL : (groupedMembers st ctx).filterMap (containerPath ctx) = [] := by
      rw [List.filterMap_eq_nil_iff]
      intro fc hfc
      rcases groupedMembers_from st ctx fc hfc with ⟨x, hx, hfd⟩ | ⟨ga, hga, g, hgd, cp, hcp, hfd⟩ | ⟨x, hx, ps, pc, hps, hpc, hfd⟩
      · simp [containerPath, hfd, child_eq_none (by simpa using hf x hx)]
      · obtain ⟨y, hym, rfl⟩ := ghostsAttr_mem hga
        simpa [hcp] using hg y hym g hgd
      · simp [containerPath, hfd]
    simp only [noCollisionAt, hL, List.all_nil]
    rw [List.all_eq_true]
    intro fc _
    split
    · split <;> rfl
    · rfl
    · rfl

/-- **C16, for inputs without nesting: `derive` never panics.** When no member is flattened and no struct-level ghost is
    addressed to a nested struct — every enum, and every struct without `#[child(..)]` and `path@name` ghosts — the
    derive, whatever else the input contains, reports diagnostics or generates the impls; it never panics. -/
theorem C16_derive_never_panics_without_nesting (b : Back) (node : RawInput) (input : DataType)
    (hp : parseInput b node = some input) (hraw : node.shapeWF = true) (hn : input.noNesting = true)
    (s : String) : derive b node ≠ .panic s :=
  C16_derive_never_panics_without_collision b node input hp hraw (noKeyCollision_of_noNesting input hn) s

end O2o
