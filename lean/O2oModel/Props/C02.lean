/-
C02 — enum conversions map each variant and payload field to its designated target.
-/
import O2oModel.Props.C09
namespace O2o

/-- C02 (default arm): a variant without variant-level instruction, literal or pattern is mapped to the same-named
    variant of the counterpart: `Src::V <bindings> => Dst::V <payload init>,` -/
theorem C02_default_arm (v : Variant) (ctx : ImplContext) (out : TS)
    (ha : v.attrs.applicableAttr ctx.kind ctx.fallible ctx.ty = none)
    (hl : v.attrs.lit ctx.ty = none) (hp : v.attrs.pat ctx.ty = none)
    (h : renderEnumLine v ctx = .ok out) :
    ∃ destr init, out = ctx.srcTy ++ cc ++ [Tok.ident v.ident] ++ destr ++ fatArrow ++ ctx.dstTy ++ cc ++ [Tok.ident v.ident] ++ init ++ [comma] := by
  unfold renderEnumLine at h
  simp only [ha, hl, hp, bind_ok_iff, pure, Except.pure, Except.ok.injEq] at h
  obtain ⟨destr, _, init, _, h⟩ := h
  exact ⟨destr, init, h.symm⟩

/-- C02 (rename, From side): `#[map(Other)]` on a variant matches `Src::Other` and builds `Dst::V` -/
theorem C02_rename_from (v : Variant) (ctx : ImplContext) (out : TS) (c : MemberAttrCore) (x : String)
    (hk : ctx.kind.cls = .from_)
    (ha : v.attrs.applicableAttr ctx.kind ctx.fallible ctx.ty = some (.field c))
    (hc : c.member = some (.named x)) (hact : c.action = none)
    (hl : v.attrs.lit ctx.ty = none) (hp : v.attrs.pat ctx.ty = none)
    (h : renderEnumLine v ctx = .ok out) :
    ∃ destr init, out = ctx.srcTy ++ cc ++ [Tok.ident x] ++ destr ++ fatArrow ++ ctx.dstTy ++ cc ++ [Tok.ident v.ident] ++ init ++ [comma] := by
  unfold renderEnumLine at h
  simp only [ha, hl, hp, hk, bind_ok_iff, ApplicableAttr.getActionOr, hact, ApplicableAttr.getFieldNameOr, hc, Option.getD_some, pure,
    Except.pure, Except.ok.injEq, Member.toTS] at h
  obtain ⟨destr, _, init, _, _, rfl, _, rfl, h⟩ := h
  exact ⟨destr, init, by rw [← h]; simp [i, List.append_assoc]⟩

/-- C02 (tuple payload bindings): inside a variant, a tuple payload field without instruction is referred to by the
    binding `f<index>` on the Into side -/
theorem C02_tuple_binding_use (f : Field) (ctx : ImplContext) (n idx : Nat)
    (hm : f.member = .unnamed n) (hk : ctx.kind.cls = .into) (hv : ctx.isVariant = true) (hpost : ctx.hasPostInit = false)
    (ha : f.attrs.applicableAttr ctx.kind ctx.fallible ctx.ty = none) :
    renderStructLine f ctx .unspecified idx none = .ok [Tok.ident ("f" ++ toString n), .punct ',' false] := by
  unfold renderStructLine
  simp [hm, hk, hv, hpost, ha, fIdent, Member.toTS, pure, Except.pure, comma]

/-- C02 (named payload bindings): a named payload field is referred to by its own name -/
theorem C02_named_binding_use (f : Field) (ctx : ImplContext) (n : String) (idx : Nat)
    (hm : f.member = .named n) (hk : ctx.kind.cls = .into) (hv : ctx.isVariant = true) (hpost : ctx.hasPostInit = false)
    (ha : f.attrs.applicableAttr ctx.kind ctx.fallible ctx.ty = none) :
    renderStructLine f ctx .unspecified idx none = .ok [Tok.ident n, .punct ':' false, .ident n, .punct ',' false] := by
  unfold renderStructLine
  simp [hm, hk, hv, hpost, ha, pure, Except.pure, i, colon, comma]

/-- C02 (ghost variants): a variant carrying an applicable `#[ghost]` produces no arm when converting from the
    counterpart; when converting into it, it produces an arm only if the ghost declares a default -/
theorem C02_ghost_variant_skipped (v : Variant) (ctx : ImplContext) (acc : TS) (g : FieldGhostAttrCore)
    (hg : v.attrs.ghost ctx.ty ctx.kind = some g) (h : ctx.kind.isFrom = true ∨ g.action = none) :
    enumArmStep ctx acc v = .ok acc := by
  unfold enumArmStep variantContributes ghostNoDefault
  cases hk : ctx.kind.isFrom
  · cases h with
    | inl h => simp [hk] at h
    | inr h => simp [hg, h, pure, Except.pure]
  · simp [hg, pure, Except.pure]

/-- C02 (all variants, declaration order): the arms of the generated `match` are exactly the arms of the contributing
    variants, in declaration order — for any number of variants -/
theorem C02_arms_eq_variants (input : Enum) (ctx : ImplContext) (out : TS) (h : enumInitBlock input ctx = .ok out) :
    ∃ arms : List TS, arms.length = (input.variants.filter (variantContributes ctx)).length ∧
      (∀ n (hn : n < arms.length) (hv : n < (input.variants.filter (variantContributes ctx)).length),
        renderEnumLine ((input.variants.filter (variantContributes ctx))[n]) ctx = .ok arms[n]) ∧
      ∃ rest, out = [Tok.group .brace (arms.flatten ++ rest)] := by
  obtain ⟨arms, gs, h1, _, rfl⟩ := C09_arms_in_declaration_order input ctx out h
  exact ⟨arms, mapM_ok_length h1, fun n hn hv => mapM_ok_getElem h1 n hv hn, gs.flatten ++ defaultArm input ctx,
    by simp [List.append_assoc]⟩

/-- variant `v` is mapped plainly to the counterpart variant `x`: no variant-level instruction (then `x` is its own
    name) or a rename without expression; no literal, no pattern -/
def PlainVariant (ctx : ImplContext) (v : Variant) (x : String) : Prop :=
  v.attrs.lit ctx.ty = none ∧ v.attrs.pat ctx.ty = none ∧
  ((v.attrs.applicableAttr ctx.kind ctx.fallible ctx.ty = none ∧ x = v.ident) ∨
   (∃ c, v.attrs.applicableAttr ctx.kind ctx.fallible ctx.ty = some (.field c) ∧ c.member = some (.named x) ∧ c.action = none))

/-- C02 (whole From `match`): when every contributing variant is mapped plainly, the k-th arm matches the designated
    counterpart variant `x_k` and builds the k-th variant — `Src::x_k <bindings> => Dst::V_k <payload>,` — in declaration
    order, for any number of variants -/
theorem C02_from_arm_table (ctx : ImplContext) (vs : List (Variant × String)) (arms : List TS)
    (hk : ctx.kind.cls = .from_) (hall : ∀ t ∈ vs, PlainVariant ctx t.1 t.2)
    (h : (vs.map (·.1)).mapM (renderEnumLine · ctx) = .ok arms) :
    arms.length = vs.length ∧
    ∀ k (hk1 : k < arms.length) (hk2 : k < vs.length),
      ∃ destr init, arms[k] = ctx.srcTy ++ cc ++ [Tok.ident vs[k].2] ++ destr ++ fatArrow ++ ctx.dstTy ++ cc ++ [Tok.ident vs[k].1.ident] ++ init ++ [comma] := by
  refine ⟨by simpa using mapM_ok_length h, fun k hk1 hk2 => ?_⟩
  have harm := mapM_ok_getElem h k (by simpa using hk2) hk1
  rw [List.getElem_map] at harm
  obtain ⟨hl, hp, ⟨ha, hx⟩ | ⟨c, ha, hc, hact⟩⟩ := hall vs[k] (List.getElem_mem hk2)
  · rw [hx]
    exact C02_default_arm vs[k].1 ctx arms[k] ha hl hp harm
  · exact C02_rename_from vs[k].1 ctx arms[k] c vs[k].2 hk ha hc hact hl hp harm

/-- reading of a `match` on an enum value: the first arm whose pattern names the value's variant is taken -/
def firstArm (table : List (String × String)) (x : String) : Option String := (table.find? (fun r => decide (r.1 = x))).map (·.2)

/-- C02 (values): every counterpart variant `x_k` is converted to the variant that designates it; if two variants
    designate the same counterpart variant, the one declared first wins; when the designation is injective, the
    conversion hits exactly `V_k` — so `from (into V_k) = V_k` -/
theorem C02_value_first_declared : ∀ (table : List (String × String)) (row : String × String), row ∈ table →
    ∃ v, firstArm table row.1 = some v ∧ ((table.map (·.1)).Nodup → v = row.2) :=
  find_first_declared

/-- C02-7 (payload positions): a payload line of a variant arm never depends on how many lines were written before it
    (From: always; Into: the arm is one struct / tuple expression) — a member after a ghost payload member still reads
    and writes its own binding `f<declaration index>` -/
theorem C02_payload_line_ignores_line_count (f : Field) (ctx : ImplContext) (hint : TypeHint) (idx idx' : Nat)
    (h : ctx.kind.cls = .from_ ∨ (ctx.kind.cls = .into ∧ ctx.hasPostInit = false)) :
    renderStructLine f ctx hint idx none = renderStructLine f ctx hint idx' none :=
  renderStructLine_ignores_counter f ctx hint idx idx' none h

end O2o
