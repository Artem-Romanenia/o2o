/-
C13, second part — the attribute loops of `get_data_type_attrs` and `get_member_attrs`: a whole `#[o2o(a(..), b(..), ..)]` attribute contributes
to the instruction list exactly what the separate bare attributes `#[a(..)] #[b(..)] ..` contribute, in the written
order and at the written place among the other attributes of the type (of the member).
-/
import O2oModel.Props.C13
namespace O2o

/-- the bare attributes `#[e1] #[e2] ..` append their instructions one by one, in the written order, and leave the
    `allow_unknown` switch where it was -/
theorem C13_collect_bare (b : Back) (items : List (String × Option TS)) (acc : DTAcc) (h : ∀ e ∈ items, e.1 ∈ typeInstrNames) :
    collectDataTypeInstrs b (items.map bareAttr) acc =
      (match allResults (fun instr c => parseDataTypeInstruction b instr c false acc.bark) items with
       | .ok xs => .ok { acc with instrs := acc.instrs ++ xs }
       | .error e => .error e) := by
  simp only [collectDataTypeInstrs_eq]
  refine (foldlM_bareAttrs b _ _ _ _ items acc (fun e he => (bareForms_plain (h e he)).2)
    (fun _ => by simp) (fun _ _ _ => by simp) (fun _ _ => by rfl)).trans ?_
  cases allResults (fun instr c => parseDataTypeInstruction b instr c false acc.bark) items <;> rfl

theorem typeInstr_not_allowUnknown (b : Back) {name : String} {ts : TS} {i : DataTypeInstruction} (h : name ∈ typeInstrNames)
    (hp : parseDataTypeInstruction b name ts true true = .ok i) : i.isAllowUnknown = false := by
  unfold parseDataTypeInstruction at hp
  simp only [typeInstrNames, List.mem_filter] at h
  cases hf : findArm Gen.typeArms name true true with
  | none => simp [hf] at h
  | some arm =>
    simp only [hf] at h hp
    cases hkind : arm.kind <;> simp [hkind] at h
    all_goals
      simp only [hkind, bind, Except.bind, pure, Except.pure] at hp
      split at hp
      · cases hp
      · cases hp; rfl

theorem allResults_no_allowUnknown (b : Back) (items : List (String × Option TS)) (xs : List DataTypeInstruction)
    (h : ∀ e ∈ items, e.1 ∈ typeInstrNames)
    (hr : allResults (fun instr c => parseDataTypeInstruction b instr c true true) items = .ok xs) :
    xs.any DataTypeInstruction.isAllowUnknown = false := by
  obtain ⟨hl, hg⟩ := allResults_get _ items xs hr
  rw [List.any_eq_false]
  intro x hx
  obtain ⟨k, hk, rfl⟩ := List.mem_iff_getElem.mp hx
  have hk' : k < items.length := hl ▸ hk
  simp [typeInstr_not_allowUnknown b (h _ (List.getElem_mem hk')) (hg k hk' hk)]

/-- C13-3 (type level, in context): among any other attributes of the type, written before and after, a grouped
    `#[o2o(i1(..), i2(..), ..)]` attribute and the bare attributes `#[i1(..)] #[i2(..)] ..` written in its place leave the
    attribute loop in the same state — the same instruction list in the same order, the same `allow_unknown` switch —
    or stop it with the same error. Everything after the loop (repeat bookkeeping, validation, expansion) sees no
    difference. -/
theorem C13_grouping_in_context (b : Back) (pre post : List RawAttr) (items : List (String × Option TS)) (acc : DTAcc)
    (h : ∀ e ∈ items, e.1 ∈ typeInstrNames) :
    collectDataTypeInstrs b (pre ++ groupAttr items :: post) acc
      = collectDataTypeInstrs b (pre ++ (items.map bareAttr ++ post)) acc := by
  rw [collect_append, collect_append]
  -- the attributes before are read alike: compare what follows, from any state `acc'` they leave
  refine congrArg _ (funext fun acc' => ?_)
  rw [collect_group b items post acc' fun e he => (bareForms_plain (h e he)).1 b,
    collect_append, C13_collect_bare b items acc' h,
    allResults_congr (fun instr c => parseDataTypeInstruction b instr c false acc'.bark)
      (fun instr c => parseDataTypeInstruction b instr c true true) items
      fun e he => C13_type_instr b e.1 _ acc'.bark (h e he)]
  cases hr : allResults (fun instr c => parseDataTypeInstruction b instr c true true) items with
  | error err => rfl
  | ok xs =>
    simp only [Except.bind, allResults_no_allowUnknown b items xs h hr]
    rfl

/-- C13-3 (member level, in context): on a member (or a variant), among any other attributes before and after, the
    grouped and the bare spelling leave the attribute loop with the same instruction list, or the same error -/
theorem C13_grouping_in_context_member (b : Back) (bark : Bool) (pre post : List RawAttr) (items : List (String × Option TS))
    (acc : List MemberInstruction) (h : ∀ e ∈ items, e.1 ∈ memberInstrNames) :
    collectMemberInstrs b bark (pre ++ groupAttr items :: post) acc
      = collectMemberInstrs b bark (pre ++ (items.map bareAttr ++ post)) acc := by
  have hp := fun e he => bareForms_plain (h e he)
  simp only [collectMemberInstrs_eq, List.foldlM_append, List.foldlM_cons]
  refine bind_congr fun acc' => congrArg (· >>= _) ?_
  refine (attrStep_group b _ _ _ _ items acc' fun e he => (hp e he).1 b).trans ?_
  refine .trans ?_ (foldlM_bareAttrs b _ _ _ _ items acc' (fun e he => (hp e he).2) List.append_nil List.append_assoc
    (fun _ _ => by rfl)).symm
  exact congrArg _ (allResults_congr _ _ items fun e he => (C13_member_instr b e.1 _ bark (h e he)).symm)

/-- non-vacuity: the spellings of a two-element list -/
example : bareAttr ("map", some [.ident "X"]) = ⟨[.ident "map"], .list .paren [.ident "X"]⟩ ∧
    groupAttr [("map", some [.ident "X"]), ("ghosts", some [])] =
      ⟨[.ident "o2o"], .list .paren [.ident "map", .group .paren [.ident "X"], p ',', .ident "ghosts", .group .paren []]⟩ := ⟨rfl, rfl⟩

example : "map" ∈ typeInstrNames ∧ "ghosts" ∈ typeInstrNames ∧ "try_from_ref" ∈ typeInstrNames := by
  -- the test of the filter is run on the three names only, not on every name with a bare form
  simp only [typeInstrNames, List.mem_filter]
  decide +kernel

end O2o
