/-
C10 — `@` and `~` are substituted everywhere; all other user tokens pass through.
Theorems about `replaceList` / `quoteAction` of the model (Expand.lean), for token trees of
unbounded size and nesting depth (mutual structural induction over `Tok` / `List Tok`).
-/
import O2oModel.Lemmas.Lines
namespace O2o

mutual
/-- no `@` / `~` punctuation token at any depth -/
def Tok.noPh : Tok → Bool
  | .punct c _ => c != '~' && c != '@'
  | .group _ ts => Tok.noPhList ts
  | _ => true
def Tok.noPhList : List Tok → Bool
  | [] => true
  | t :: ts => Tok.noPh t && Tok.noPhList ts
end

theorem noPhList_append (a b : TS) : Tok.noPhList (a ++ b) = (Tok.noPhList a && Tok.noPhList b) := by
  induction a with
  | nil => simp [Tok.noPhList]
  | cons t ts ih => simp [Tok.noPhList, ih, Bool.and_assoc]

mutual
/-- C10-1 (one token): after substitution no placeholder is left, at any depth -/
theorem C10_no_placeholder_left_tok (at_ tilde : TS) (ha : Tok.noPhList at_ = true) (ht : Tok.noPhList tilde = true) :
    ∀ t : Tok, Tok.noPhList (replaceTok at_ tilde t) = true
  | .ident _ | .lit _ => by simp [replaceTok, Tok.noPhList, Tok.noPh]
  | .punct c jn => by
    unfold replaceTok
    split
    · exact ht
    · split
      · exact ha
      · simp_all [Tok.noPhList, Tok.noPh]
  | .group d ts => by
    have ih := C10_no_placeholder_left at_ tilde ha ht ts
    cases d <;> simp [replaceTok, Tok.noPhList, Tok.noPh, ih]
/-- C10-1: after substitution no placeholder is left, at any depth -/
theorem C10_no_placeholder_left (at_ tilde : TS) (ha : Tok.noPhList at_ = true) (ht : Tok.noPhList tilde = true) :
    ∀ ts : List Tok, Tok.noPhList (replaceList at_ tilde ts) = true
  | [] => by simp [replaceList, Tok.noPhList]
  | t :: ts => by
    simp only [replaceList, noPhList_append]
    rw [C10_no_placeholder_left_tok at_ tilde ha ht t, C10_no_placeholder_left at_ tilde ha ht ts]
    rfl
end

mutual
/-- the specification of substitution: a token-wise homomorphism. Every token that is not a
    placeholder is kept as is (same text, same spacing flag), in order, at the same depth and inside
    the same delimiter; `Delim.none` groups are flattened as the code does. -/
def substSpecTok (at_ tilde : TS) : Tok → TS
  | .punct '~' _ => tilde
  | .punct '@' _ => at_
  | .group .none ts => substSpecList at_ tilde ts
  | .group d ts => [.group d (substSpecList at_ tilde ts)]
  | t => [t]
def substSpecList (at_ tilde : TS) : List Tok → TS
  | [] => []
  | t :: ts => substSpecTok at_ tilde t ++ substSpecList at_ tilde ts
end

mutual
theorem C10_homomorphism_tok (at_ tilde : TS) : ∀ t : Tok, replaceTok at_ tilde t = substSpecTok at_ tilde t
  | .ident _ | .lit _ => by simp [replaceTok, substSpecTok]
  | .punct c jn => by
    unfold replaceTok substSpecTok
    -- `c` is `~`, or `@`, or neither: then every arm of the specification but the last is excluded
    split
    · simp_all
    · split
      · simp_all
      · split <;> simp_all
  | .group d ts => by
    have ih := C10_homomorphism at_ tilde ts
    cases d <;> simp [replaceTok, substSpecTok, ih]
/-- C10-2: substitution is exactly the token-wise homomorphism — nothing but placeholders changes -/
theorem C10_homomorphism (at_ tilde : TS) : ∀ ts : List Tok, replaceList at_ tilde ts = substSpecList at_ tilde ts
  | [] => by simp [replaceList, substSpecList]
  | t :: ts => by
    simp only [replaceList, substSpecList]
    rw [C10_homomorphism_tok at_ tilde t, C10_homomorphism at_ tilde ts]
end

mutual
def Tok.noNone : Tok → Bool
  | .group .none _ => false
  | .group _ ts => Tok.noNoneList ts
  | _ => true
def Tok.noNoneList : List Tok → Bool
  | [] => true
  | t :: ts => Tok.noNone t && Tok.noNoneList ts
end

mutual
theorem C10_verbatim_tok (at_ tilde : TS) : ∀ t : Tok, Tok.noPh t = true → Tok.noNone t = true → replaceTok at_ tilde t = [t]
  | .ident _, _, _ | .lit _, _, _ => by simp [replaceTok]
  | .punct c jn, h, _ => by
    simp [Tok.noPh] at h
    simp [replaceTok, h]
  | .group d ts, h, hn => by
    have ih := C10_verbatim at_ tilde ts (by simpa [Tok.noPh] using h)
    -- `hn` excludes `Delim.none`; for the other delimiters it speaks of `ts`
    cases d <;> simp [Tok.noNone] at hn
    all_goals simp [replaceTok, ih hn]
/-- C10-2b: an expression without placeholders is emitted verbatim (when it has no `Delim.none` group) -/
theorem C10_verbatim (at_ tilde : TS) : ∀ ts : List Tok, Tok.noPhList ts = true → Tok.noNoneList ts = true → replaceList at_ tilde ts = ts
  | [], _, _ => by simp [replaceList]
  | t :: ts, h, hn => by
    simp [Tok.noPhList] at h
    simp [Tok.noNoneList] at hn
    simp [replaceList, C10_verbatim_tok at_ tilde t h.1 hn.1, C10_verbatim at_ tilde ts h.2 hn.2]
end

/-- C10-3 (meaning of `@`): `value` when converting from the counterpart, `self` otherwise -/
theorem C10_at_meaning (k : Kind) : srcIdent k = if k.isFrom then [Tok.ident "value"] else [Tok.ident "self"] :=
  srcIdent_eq k

/-- C10-3 (meaning of `~`, struct): the source object followed by `.` and the member path -/
theorem C10_tilde_meaning_struct (ctx : ImplContext) (post : TS) (h : ctx.implType = .struct) :
    tildePath ctx (some post) = srcIdent ctx.kind ++ [Tok.punct '.' false] ++ post := by
  simp [tildePath, h, skel, Gen.tmpl_quote_action, Gen.Tm.instList, Gen.Tm.inst, List.getD]

/-- C10-3 (meaning of `~`, enum variant expression): `Dst::` followed by the variant (and its init) -/
theorem C10_tilde_meaning_enum (ctx : ImplContext) (post : TS) (h : ctx.implType = .enum) :
    tildePath ctx (some post) = ctx.dstTy ++ [Tok.punct ':' true, Tok.punct ':' false] ++ post := by
  simp [tildePath, h, skel, Gen.tmpl_quote_action, Gen.Tm.instList, Gen.Tm.inst, List.getD]

/-- C10-3 (meaning of `~`, payload field of a variant): the binding itself -/
theorem C10_tilde_meaning_variant (ctx : ImplContext) (post : TS) (h : ctx.implType = .variant) :
    tildePath ctx (some post) = post := by
  simp [tildePath, h, skel, Gen.tmpl_quote_action, Gen.Tm.instList, Gen.Tm.inst, List.getD]

/-- C10-1 lifted to `quote_action`: the emitted expression has no placeholder left, whatever the user wrote -/
theorem C10_quoteAction_no_placeholder (action : TS) (post : Option TS) (ctx : ImplContext)
    (hs : Tok.noPhList (srcIdent ctx.kind) = true) (hp : Tok.noPhList (tildePath ctx post) = true) :
    Tok.noPhList (quoteAction action post ctx) = true :=
  C10_no_placeholder_left _ _ hs hp action

/-- the premise `hs` holds for every kind -/
theorem C10_srcIdent_noPh (k : Kind) : Tok.noPhList (srcIdent k) = true := by
  cases k <;> decide

/-- non-vacuity: a nested expression with both placeholders, literals containing `~`/`@`, joint punctuation -/
example :
    replaceList [Tok.ident "value"] [Tok.ident "value", Tok.punct '.' false, Tok.ident "x"]
      [Tok.ident "f", Tok.group .paren [Tok.punct '~' false, Tok.punct ',' false, Tok.group .bracket [Tok.punct '@' false, Tok.punct '&' true, Tok.punct '&' false, Tok.lit "\"~@\""]]]
    = [Tok.ident "f", Tok.group .paren [Tok.ident "value", Tok.punct '.' false, Tok.ident "x", Tok.punct ',' false,
        Tok.group .bracket [Tok.ident "value", Tok.punct '&' true, Tok.punct '&' false, Tok.lit "\"~@\""]]] := by decide +kernel

/-- C10-6 (`~` under a positional source): a named member built from a tuple-shaped source (`#[from(T as ())]`) whose
    instruction gives an expression and no index — `~` is the source's member at the member's *declaration* position
    `f.idx`, whatever the number `idx` of initialiser lines written before it (bare ghosts leave no line) -/
theorem C10_tilde_positional_source (f : Field) (ctx : ImplContext) (n : String) (idx : Nat) (c : MemberAttrCore) (act : TS)
    (hm : f.member = .named n) (hk : ctx.kind.cls = .from_)
    (ha : f.attrs.applicableAttr ctx.kind ctx.fallible ctx.ty = some (.field c))
    (hc : c.member = none) (hact : c.action = some act)
    (hch : f.attrs.child ctx.ty = none) (hv : ctx.isVariant = false) :
    renderStructLine f ctx .tuple idx none =
      .ok ([Tok.ident n, .punct ':' false] ++ quoteAction act (some (Member.unnamed f.idx).toTS) ctx ++ [Tok.punct ',' false]) := by
  unfold renderStructLine
  simp [hm, hk, ha, hc, hact, hch, hv, ApplicableAttr.getStuff, getStuffInner, bind, Except.bind, pure, Except.pure, Member.toTS,
    i, colon, comma]

/-- C10-7: no line of a From conversion depends on the running line counter — every path a `~` (or a default read)
    resolves to comes from the member and its instructions -/
theorem C10_from_line_ignores_line_count (f : Field) (ctx : ImplContext) (hint : TypeHint) (idx idx' : Nat)
    (pc : Option ParentChildField) (h : ctx.kind.cls = .from_) :
    renderStructLine f ctx hint idx pc = renderStructLine f ctx hint idx' pc :=
  renderStructLine_ignores_counter f ctx hint idx idx' pc (Or.inl h)

/-- C10-7 (Into, initialiser expression): likewise when the counterpart is written as one struct / tuple expression -/
theorem C10_into_line_ignores_line_count (f : Field) (ctx : ImplContext) (hint : TypeHint) (idx idx' : Nat)
    (pc : Option ParentChildField) (h : ctx.kind.cls = .into) (hp : ctx.hasPostInit = false) :
    renderStructLine f ctx hint idx pc = renderStructLine f ctx hint idx' pc :=
  renderStructLine_ignores_counter f ctx hint idx idx' pc (Or.inr ⟨h, hp⟩)

/-- non-vacuity: the third member (declaration index 2) of `#[from(T as ())] struct S { #[ghost] a, .., #[from(~ + 1)] c }`
    rendered as the second line (one line was left out): `c: value.2 + 1,` -/
def exSkewField : Field :=
  { attrs := { attrs := [{ attr := { containerTy := none, member := none, action := some [Tok.punct '~' false, Tok.punct '+' false, Tok.lit "1"] },
                           fallible := false, originalInstr := "from", appl := [false, false, true, true, false, false] }] },
    idx := 2, member := .named "c", memberStr := "c", ty := none }

def exSkewCtx : ImplContext := { (default : ImplContext) with kind := .fromOwned, implType := .struct, fallible := false, hasPostInit := false }

/-- the hypotheses of `C10_tilde_positional_source` hold for it .. -/
example : exSkewField.member = .named "c" ∧ exSkewCtx.kind.cls = .from_ ∧ exSkewCtx.isVariant = false ∧
    exSkewField.attrs.child exSkewCtx.ty = none ∧
    exSkewField.attrs.applicableAttr exSkewCtx.kind exSkewCtx.fallible exSkewCtx.ty
      = some (.field { containerTy := none, member := none, action := some [Tok.punct '~' false, Tok.punct '+' false, Tok.lit "1"] }) :=
  ⟨rfl, rfl, rfl, rfl, rfl⟩

/-- .. and the line is `c: value.2 + 1,` although it is written as line 1 -/
example : (match renderStructLine exSkewField exSkewCtx .tuple 1 none with | .ok ts => ts | .error _ => []) =
    [Tok.ident "c", .punct ':' false, .ident "value", .punct '.' false, .lit "2", .punct '+' false, .lit "1", .punct ',' false] := by
  decide +kernel

end O2o
