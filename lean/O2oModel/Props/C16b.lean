/-
C16, second part — inventories: for whole functions of the expander, *every* panic they can end in, for every input
(validated or not). What is not in a function's list is unreachable from it, whatever the input; what is in the list is
either a listed finding or shown unreachable for validated inputs by the per-site theorems of `Props/C16.lean`.
The proofs run a small calculus (`Lemmas/NoPanic.lean`: `NP site r` — "r is not the panic at site") through the code,
for the mutually recursive descent by induction on its fuel (`body_np`): one induction for every input and for the
validated ones (`Props/C16c.lean`), what is asked of the input being asked only at the sites that validation closes.
Each of the six functions of the descent has one lemma (`structInitLoop_np` …) that takes it one level of fuel up from what
it calls; `body_np` and `body_w` (`Props/C16e.lean`) are two inductions over these.
Suffixes in the C16 files: `_core` any input (`s` outside `coreSites`); `_v` validated, entries `GoodFC` (`s` outside
`lineSites`); `_w` validated without a collision of names, entries `GoodW` (`s` one of `lineSites`); `_f` `s` one of
`findingSites`.
-/
import O2oModel.Props.C16
import O2oModel.Props.C16d
namespace O2o

/-- the sites the descent of a struct body (`struct_init_block` and the five functions it recurses through, the member
    lines and ghost lines they write) can stop at whatever the names of the struct-level ghosts are .. -/
def coreSites : List String := [
  "expand.rs:render_struct_line:unreachable(6)",
  "expand.rs:ApplicableAttr::get_ident:unreachable(8)",
  "expand.rs:ApplicableAttr::get_ident:unreachable(18)",
  "expand.rs:ApplicableAttr::get_ident:unreachable(19)",
  "expand.rs:render_child_fragment:child_parents_attr unwrap",
  "expand.rs:render_child_fragment:child_data unwrap",
  "expand.rs:render_parent_child_fragment:sub_path type unwrap",
  "expand.rs:render_parent_child_fragment:field.ty unwrap",
  "expand.rs:render_child:child_path index",
  "expand.rs:render_child:unreachable(15)",
  "expand.rs:struct_init_block_inner:unreachable(2)",
  "expand.rs:struct_init_block_inner:ghost child_path unwrap",
  "attr.rs:ChildPath::get_child_path_str:index"]

/-- .. and one more when a struct-level / variant-level `#[ghosts]` entry is named by a destructuring pattern -/
def bodySites : List String := coreSites ++ ["attr.rs:GhostIdent::get_ident:unreachable(16)"]

/-- what the descent needs to know about the conversion context: it refers to a struct (the deriving struct, or a variant
    presented as one), whose type-level ghosts are named -/
def CtxOK (s : String) (ctx : ImplContext) : Prop := ctx.input.isEnum = false ∧ GhostsOK s ctx.input.attrs.ghostsAttrs

theorem namedFields_np (s : String) (d : DataType) (hd : d.isEnum = false) : NP s d.namedFields := by
  cases d with
  | struct st => exact NP.ok
  | enum e => cases hd

theorem parentChildHint_np (s : String) (ctx : ImplContext) (th : TypeHint) (hin : ctx.input.isEnum = false) :
    NP s (parentChildHint ctx th) := by
  unfold parentChildHint
  exact NP.ite (fun _ => NP.bind (namedFields_np s _ hin) (fun _ => NP.pure)) (fun _ => NP.pure)

theorem wrapInit_np (s : String) (ctx : ImplContext) (hint : TypeHint) (n : Bool) (fr : TS)
    (h : ctx.kind.isFrom = false → hint = .unit → "expand.rs:struct_init_block_inner:unreachable(2)" ≠ s) :
    NP s (wrapInit ctx hint n fr) := by
  unfold wrapInit
  refine NP.ite (fun _ => NP.ok) (fun _ => NP.ite (fun _ => NP.ok) (fun hnf => ?_))
  cases hint with
  | unit => exact NP.panicAt (h (by simpa using hnf) rfl)
  | _ => exact NP.ok

theorem levelBreak_np (s : String) (fctx : FieldCtx) (p : String) (hkey : KeyOK s fctx) : NP s (levelBreak fctx p) := by
  unfold levelBreak
  split
  · exact NP.bind (hkey _ _ _ rfl) (fun _ => NP.pure)
  · exact NP.pure

/-- the cursor of the descent: what a function leaves is a suffix of what it was given -/
def Suf (l : List FieldContainer) (r : E (TS × List FieldContainer)) : Prop := Post (fun x => x.2 <:+ l) r

def SufAll (fuel : Nat) : Prop :=
  (∀ members named ctx fctx, Suf members (structInitBlockInner fuel members named ctx fctx)) ∧
  (∀ members named ctx fctx th frags idx, Suf members (structInitLoop fuel members named ctx fctx th frags idx)) ∧
  (∀ cp fields ctx depth th line, Suf fields (renderChildFragment fuel cp fields ctx depth th line)) ∧
  (∀ field pc fields named ctx depth lh idx, Suf fields (renderParentChildFragment fuel field pc fields named ctx depth lh idx)) ∧
  (∀ cd fields named ctx cp depth hint, Suf fields (renderChild fuel cd fields named ctx cp depth hint)) ∧
  (∀ fields named ctx cp depth, Suf fields (renderExistingChild fuel fields named ctx cp depth))

theorem Suf.rest {fc : FieldContainer} {rest : List FieldContainer} {r : E (TS × List FieldContainer)} (h : Suf rest r) :
    Suf (fc :: rest) r :=
  Post.mono h (fun _ ha => List.IsSuffix.trans ha (List.suffix_cons _ _))

theorem Suf.bind {l : List FieldContainer} {x : E (TS × List FieldContainer)} {g : TS × List FieldContainer → E (TS × List FieldContainer)}
    (hx : Suf l x) (hg : ∀ a, Suf a.2 (g a)) : Suf l (x >>= g) :=
  Post.bind hx (fun a ha => Post.mono (hg a) (fun _ hb => List.IsSuffix.trans hb ha))

theorem suf_all : ∀ fuel, SufAll fuel := by
  intro fuel
  induction fuel with
  | zero =>
    refine ⟨?_, ?_, ?_, ?_, ?_, ?_⟩
    · intros; unfold structInitBlockInner; exact Post.error
    · intros; unfold structInitLoop; exact Post.error
    · intros; unfold renderChildFragment; exact Post.error
    · intros; unfold renderParentChildFragment; exact Post.error
    · intros; unfold renderChild; exact Post.error
    · intros; unfold renderExistingChild; exact Post.error
  | succ fuel ih =>
    obtain ⟨ihInner, ihLoop, ihCF, ihPCF, ihChild, ihEx⟩ := ih
    refine ⟨?_, ?_, ?_, ?_, ?_, ?_⟩
    · intro members named ctx fctx
      unfold structInitBlockInner
      refine Post.bind (ihLoop _ _ _ _ _ _ _) (fun x hx => ?_)
      exact Post.bind_any (fun _ => Post.bind_any (fun _ => Post.pure hx))
    · intro members named ctx fctx th frags idx
      unfold structInitLoop
      cases members with
      | nil => exact Post.ok (List.suffix_refl _)
      | cons fc rest =>
        -- the level ends here, or the entry is read: a member (skipped, flattened, or written as a line), a ghost entry
        -- (with its path, or the panic), a nested field of a `#[parent(..)]` list
        refine Post.bind_any (fun brk => Post.ite (Post.pure (List.suffix_refl _)) ?_)
        split
        · refine Post.ite (ihLoop _ _ _ _ _ _ _).rest ?_
          split
          · exact (ihCF _ _ _ _ _ _).bind (fun a => ihLoop _ _ _ _ _ _ _)
          · exact Post.bind_any (fun _ => (ihLoop _ _ _ _ _ _ _).rest)
        · split
          · exact Post.panicAt
          · exact (ihCF _ _ _ _ _ _).bind (fun a => ihLoop _ _ _ _ _ _ _)
        · exact Post.bind_any (fun _ => (ihPCF _ _ _ _ _ _ _ _).bind (fun a => ihLoop _ _ _ _ _ _ _))
    · intro cp fields ctx depth th line
      unfold renderChildFragment
      have hdrop : ∀ (x : E TS), Suf fields (do return (← x, fields.drop 1)) :=
        fun x => Post.bind_any (fun _ => Post.pure (List.drop_suffix _ _))
      refine Post.ite ?_ (hdrop _)
      split
      · split
        · exact Post.panicAt
        · refine Post.bind_any (fun _ => ?_)
          split
          · exact Post.panicAt
          · exact Post.bind_any (fun _ => ihChild _ _ _ _ _ _ _)
      · exact Post.bind_any (fun _ => ihEx _ _ _ _ _)
      · exact hdrop _
    · intro field pc fields named ctx depth lh idx
      unfold renderParentChildFragment
      exact Post.ite (Post.bind_any (fun _ => Post.bind_any (fun _ => ihChild _ _ _ _ _ _ _)))
        (Post.bind_any (fun _ => Post.ok (List.drop_suffix _ _)))
    · intro cd fields named ctx cp depth hint
      unfold renderChild
      refine Post.bind_any (fun _ => ?_)
      refine Post.bind (ihInner _ _ _ _) (fun x hx => ?_)
      refine Post.bind_any (fun _ => ?_)
      split <;> first | exact Post.pure hx | exact Post.panicAt
    · intro fields named ctx cp depth
      unfold renderExistingChild
      exact Post.bind_any (fun _ => ihInner _ _ _ _)

/-- the shape a level is written in: the first `let` of `structInitBlockInner` -/
def hintOf (ctx : ImplContext) (fctx : FieldCtx) : TypeHint :=
  match fctx with
  | some (_, some crc, _) => crc.typeHint
  | _ => ctx.structAttr.typeHint

/-- the `#[child_parents]` entry of a level key: the lookup `renderExistingChild` writes inline (Expand.lean) -/
def levelEntry (ctx : ImplContext) (key : String) : Option ChildParentData :=
  (ctx.input.attrs.childParentsAttr ctx.ty).bind fun x => x.childParents.find? (fun cd => cd.fieldPathStr == key)

theorem getStr_post_at {cp : ChildPath} {d : Nat} : Post (fun key => cp.strs[d]? = some key) (cp.getStr (some d)) := by
  unfold ChildPath.getStr
  simp only
  split
  · rename_i k hk
    exact Post.ok hk
  · exact Post.error

/-- the path is well-formed and, when the conversion builds the nested structs (Into), every level of it has its
    `#[child_parents]` entry: validation has no "Missing …" message for it (`childLevelMsg … = none`, read by
    `childLevelMsg_none`) -/
def Decl (ctx : ImplContext) (cp : ChildPath) : Prop :=
  cp.WF ∧ (ctx.kind.cls = .into → ∀ path ∈ cp.strs, childLevelMsg ctx.input.attrs ctx.ty path = none)

/-- what the descent relies on for one entry of the grouped member list to stay off its own nine sites (`descentSites`) -/
def GoodFC (ctx : ImplContext) (fc : FieldContainer) : Prop :=
  match fc.fieldData with
  | .field f => ∀ ca, f.attrs.child ctx.ty = some ca → Decl ctx ca.childPath
  | .ghostData g => ∃ cp, g.childPath = some cp ∧ Decl ctx cp
  | .parentChildField f pc => ctx.kind.isFrom = true → (f.ty.isSome = true ∧ ∀ i ∈ pc.subPath, i.2.isSome = true)

/-- the shape a level is written in is never `Unit` outside From conversions -/
def THok (ctx : ImplContext) (th : TypeHint) : Prop := ctx.kind.isFrom = false → th ≠ .unit

/-- the sites a struct body can still stop at when the input is validated (and its child paths are well-formed): the four
    listed findings -/
def lineSites : List String := [
  "expand.rs:render_struct_line:unreachable(6)",
  "expand.rs:ApplicableAttr::get_ident:unreachable(8)",
  "expand.rs:ApplicableAttr::get_ident:unreachable(18)",
  "expand.rs:ApplicableAttr::get_ident:unreachable(19)"]

/-- the sites of the descent itself (everything of `coreSites` but the four line sites) -/
def descentSites : List String := coreSites.drop 4

section
variable {s : String} {fuel : Nat}

theorem structInitBlockInner_np {members : List FieldContainer} {named : Bool} {ctx : ImplContext} {fctx : FieldCtx}
    (hok : GhostsOK s ctx.input.attrs.ghostsAttrs) (hkey : KeyOK s fctx)
    (hloop : NP s (structInitLoop fuel members named ctx fctx (hintOf ctx fctx) [] 0))
    (h2 : ctx.kind.isFrom = false → hintOf ctx fctx = .unit → "expand.rs:struct_init_block_inner:unreachable(2)" ≠ s) :
    NP s (structInitBlockInner (fuel + 1) members named ctx fctx) := by
  unfold structInitBlockInner
  exact NP.bind hloop (fun _ => NP.bind (structGhostLines_np s _ _ hok hkey) (fun _ =>
    NP.bind (wrapInit_np s _ _ _ _ h2) (fun _ => NP.pure)))

/-- `G` is what the induction knows of every entry still to be read. `hentry` follows the `match` of the code on the entry
    `fc` at hand; `hnext` is the loop again on what the entry's fragment left: a suffix of the list (`suf_all`), so its
    entries are `G` -/
theorem structInitLoop_np {G : FieldContainer → Prop} {members : List FieldContainer} {named : Bool} {ctx : ImplContext}
    {fctx : FieldCtx} {th : TypeHint} {frags : TS} {idx : Nat} (hin : ctx.input.isEnum = false) (hkey : KeyOK s fctx)
    (hgood : ∀ fc ∈ members, G fc)
    (hnext : ∀ l frags idx, (∀ fc ∈ l, G fc) → NP s (structInitLoop fuel l named ctx fctx th frags idx))
    (hentry : ∀ fc rest, members = fc :: rest → G fc → levelBreak fctx fc.path = .ok false →
      match fc.fieldData with
      | .field f => fieldSkipped ctx f = false →
        match f.attrs.child ctx.ty with
        | some ca => NP s (renderChildFragment fuel ca.childPath members ctx (fctx.map (·.2.2)) th
            (fun _ => renderStructLine f ctx (childLineHint ctx ca th) idx none))
        | none => NP s (renderStructLine f ctx th idx none)
      | .ghostData g =>
        match g.childPath with
        | some cp => NP s (renderChildFragment fuel cp members ctx (fctx.map (·.2.2)) th (fun _ => .ok []))
        | none => "expand.rs:struct_init_block_inner:ghost child_path unwrap" ≠ s
      | .parentChildField f pc => ∀ th', parentChildHint ctx th = .ok th' →
        NP s (renderParentChildFragment fuel f pc members pc.namedFields ctx (fctx.map (·.2.2)) th' idx)) :
    NP s (structInitLoop (fuel + 1) members named ctx fctx th frags idx) := by
  obtain ⟨_, _, sufCF, sufPCF, _, _⟩ := suf_all fuel
  cases members with
  | nil => unfold structInitLoop; exact NP.ok
  | cons fc rest =>
    have hnext : ∀ l frags idx, l <:+ fc :: rest → NP s (structInitLoop fuel l named ctx fctx th frags idx) :=
      fun l _ _ hl => hnext _ _ _ fun x hx => hgood x (hl.subset hx)
    have hentry := hentry fc rest rfl (hgood fc List.mem_cons_self)
    unfold structInitLoop
    refine NP.bind' (levelBreak_np s _ _ hkey) (fun brk hbrk => NP.ite (fun _ => NP.pure) (fun hnb => ?_))
    have hentry := hentry (by rw [hbrk]; simpa using hnb)
    split
    · rename_i f hfd
      simp only [hfd] at hentry
      refine NP.ite (fun _ => hnext _ _ _ (List.suffix_cons _ _)) (fun hskip => ?_)
      have hentry := hentry (by simpa using hskip)
      split
      · rename_i ca hca
        simp only [hca] at hentry
        exact NP.bind_post hentry (sufCF _ _ _ _ _ _) (fun a ha => hnext _ _ _ ha)
      · rename_i hca
        simp only [hca] at hentry
        exact NP.bind hentry (fun _ => hnext _ _ _ (List.suffix_cons _ _))
    · rename_i g hfd
      simp only [hfd] at hentry
      split
      · rename_i hcp
        simp only [hcp] at hentry
        exact NP.panicAt hentry
      · rename_i cp hcp
        simp only [hcp] at hentry
        exact NP.bind_post hentry (sufCF _ _ _ _ _ _) (fun a ha => hnext _ _ _ ha)
    · rename_i f pc hfd
      simp only [hfd] at hentry
      refine NP.bind' (parentChildHint_np s _ _ hin) (fun th' hth' => ?_)
      exact NP.bind_post (hentry th' hth') (sufPCF _ _ _ _ _ _ _ _) (fun a ha => hnext _ _ _ ha)

/-- a level below (`deeperThan`) is opened by `render_child` from its `#[child_parents]` entry (`hinto`: the `levelEntry` of
    its key, which has to be there) or by `render_existing_child` (`hex`: the same entry, if there is one); otherwise, and in
    a From conversion, the line is written (`hline`) -/
theorem renderChildFragment_np {cp : ChildPath} {fields : List FieldContainer} {ctx : ImplContext} {depth : Option Nat}
    {th : TypeHint} {line : Unit → E TS} (hin : ctx.input.isEnum = false)
    (hline : (ctx.kind.cls = .from_ ∨ deeperThan depth (cp.strs.length - 1) = false) → NP s (line ()))
    (hinto : deeperThan depth (cp.strs.length - 1) = true → ctx.kind.cls = .into →
      (ctx.input.attrs.childParentsAttr ctx.ty = none → "expand.rs:render_child_fragment:child_parents_attr unwrap" ≠ s) ∧
      NP s (cp.getStr (some (nextDepth depth))) ∧ ∀ key, cp.strs[nextDepth depth]? = some key →
        match levelEntry ctx key with
        | none => "expand.rs:render_child_fragment:child_data unwrap" ≠ s
        | some cd => ∀ named,
          NP s (renderChild fuel { ty := cd.ty, typeHint := cd.typeHint } fields named ctx cp (nextDepth depth) th))
    (hex : deeperThan depth (cp.strs.length - 1) = true → ctx.kind.cls = .existing →
      ∀ named, NP s (renderExistingChild fuel fields named ctx cp (nextDepth depth))) :
    NP s (renderChildFragment (fuel + 1) cp fields ctx depth th line) := by
  unfold renderChildFragment
  split
  · rename_i hdeep
    split
    · rename_i hcls
      obtain ⟨hcpa0, hstr, hent⟩ := hinto hdeep hcls
      split
      · exact NP.panicAt (hcpa0 ‹_›)
      · rename_i cpa hcpa
        refine NP.bind_post hstr getStr_post_at (fun key hkey => ?_)
        -- with the instruction found, the entry of the level is what `find` answers
        have hcd := hent key hkey
        simp only [levelEntry, hcpa, Option.bind_some] at hcd
        split
        · rename_i hnone
          simp only [hnone] at hcd
          exact NP.panicAt hcd
        · rename_i cd hsome
          simp only [hsome] at hcd
          exact NP.bind (namedFields_np s _ hin) (fun _ => hcd _)
    · rename_i hcls
      exact NP.bind (namedFields_np s _ hin) (fun _ => hex hdeep hcls _)
    · rename_i hcls
      exact NP.bind (hline (Or.inl hcls)) (fun _ => NP.pure)
  · rename_i hnd
    exact NP.bind (hline (Or.inr (by simpa using hnd))) (fun _ => NP.pure)

/-- nothing is asked for the index `sub_path[depth]`: the guard `depth < sub_path.len()` was just tested -/
theorem renderParentChildFragment_np {field : Field} {pc : ParentChildField} {fields : List FieldContainer} {named : Bool}
    {ctx : ImplContext} {depth : Option Nat} {lh : TypeHint} {idx : Nat} (hin : ctx.input.isEnum = false)
    (hline : NP s (renderStructLine field ctx lh idx (some pc)))
    (hdeep : deeperThan depth pc.subPath.length = true → ctx.kind.isFrom = true →
      (∀ d m, depth = some d → pc.subPath[d]? = some (m, none) →
        "expand.rs:render_parent_child_fragment:sub_path type unwrap" ≠ s) ∧
      (depth = none → field.ty = none → "expand.rs:render_parent_child_fragment:field.ty unwrap" ≠ s) ∧
      ∀ ty (nm : Bool), NP s (renderChild fuel { ty := ty, typeHint := ctx.structAttr.typeHint } fields named ctx
        (ChildPath.ofMembers (field.member :: pc.subPath.map (·.1))) (nextDepth depth) (if nm then .struct else .tuple))) :
    NP s (renderParentChildFragment (fuel + 1) field pc fields named ctx depth lh idx) := by
  unfold renderParentChildFragment
  split
  · rename_i hcond
    simp only [Bool.and_eq_true] at hcond
    obtain ⟨hsub, hty, hchild⟩ := hdeep hcond.1 hcond.2
    refine NP.bind ?_ (fun _ => NP.bind (namedFields_np s _ hin) (fun _ => hchild _ _))
    split
    · rename_i d
      split
      · exact NP.pure
      · exact NP.panicAt (hsub d _ rfl ‹_›)
      · rename_i hnone
        have hd : d < pc.subPath.length := by simpa [deeperThan] using hcond.1
        simp [List.getElem?_eq_getElem hd] at hnone
    · split
      · exact NP.pure
      · exact NP.panicAt (hty rfl ‹_›)
  · exact NP.bind hline (fun _ => NP.ok)

theorem renderChild_np {cd : ChildRenderContext} {fields : List FieldContainer} {named : Bool} {ctx : ImplContext}
    {cp : ChildPath} {depth : Nat} {hint : TypeHint} (hin : ctx.input.isEnum = false)
    (hidx : cp.path[depth]? = none → "expand.rs:render_child:child_path index" ≠ s)
    (hinner : NP s (structInitBlockInner fuel fields named ctx (some (cp, some cd, depth))))
    (h15 : hint = .unit → "expand.rs:render_child:unreachable(15)" ≠ s) :
    NP s (renderChild (fuel + 1) cd fields named ctx cp depth hint) := by
  unfold renderChild
  refine NP.bind ?_ (fun _ => NP.bind hinner (fun _ => NP.bind (namedFields_np s _ hin) (fun _ => ?_)))
  · split
    · exact NP.pure
    · exact NP.panicAt (hidx ‹_›)
  · split <;> first | exact NP.pure | exact NP.panicAt (h15 rfl)

theorem renderExistingChild_np {fields : List FieldContainer} {named : Bool} {ctx : ImplContext} {cp : ChildPath} {depth : Nat}
    (hkey : NP s (cp.getStr (some depth)))
    (hinner : ∀ key, cp.strs[depth]? = some key → NP s (structInitBlockInner fuel fields named ctx
      (some (cp, (levelEntry ctx key).map (fun x => { ty := x.ty, typeHint := x.typeHint }), depth)))) :
    NP s (renderExistingChild (fuel + 1) fields named ctx cp depth) := by
  unfold renderExistingChild
  exact NP.bind_post hkey getStr_post_at hinner
end

theorem childLevelMsg_none {ctx : ImplContext} {path : String} (h : childLevelMsg ctx.input.attrs ctx.ty path = none) :
    ∃ cd, levelEntry ctx path = some cd := by
  unfold childLevelMsg at h
  unfold levelEntry
  cases hc : ctx.input.attrs.childParentsAttr ctx.ty with
  | none => simp [hc] at h
  | some cpa =>
    -- no message: some entry has this key, and `find?` finds one
    refine Option.isSome_iff_exists.mp (List.find?_isSome.mpr ?_)
    simpa [hc] using h

theorem levelEntry_mem {ctx : ImplContext} {key : String} {cd : ChildParentData} (h : levelEntry ctx key = some cd) :
    ∃ cpa ∈ ctx.input.attrs.childParentsAttrs, cd ∈ cpa.childParents := by
  obtain ⟨cpa, hcpa, hfind⟩ := Option.bind_eq_some_iff.mp h
  exact ⟨cpa, (findDedicatedOrDefault_some hcpa).1, List.mem_of_find?_eq_some hfind⟩

theorem nextDepth_le {depth : Option Nat} {n : Nat} (h : deeperThan depth n = true) : nextDepth depth ≤ n := by
  cases depth with
  | none => exact Nat.zero_le _
  | some d => exact Nat.succ_le_of_lt (by simpa [deeperThan] using h)

section
variable (s : String) (hA : ∀ site ∈ lineSites, site ≠ s) (ctx : ImplContext) (hok : CtxOK s ctx)
  (hunit : s ∈ descentSites → ∀ ca ∈ ctx.input.attrs.childParentsAttrs, ∀ cd ∈ ca.childParents, cd.typeHint ≠ .unit)
  (htop : s ∈ descentSites → THok ctx ctx.structAttr.typeHint)
include hA hok hunit htop

/-- what the induction over the fuel carries, one conjunct per function of the descent, for `s` outside `lineSites`. What is
    asked of the input is asked under `s ∈ descentSites`: for any other `s` it is vacuous (`structInitBlock_np_core`, every
    input), and a validated input meets it (`structInitBlock_np_v`): the entries still to be read are `GoodFC`, no level is
    written `as Unit` outside From (`THok`), the key of the level being rendered can be read (`KeyOK`), the level that
    `render_child` / `render_existing_child` are about to open is a level of its own well-formed path (`depth < cp.strs.length`) -/
def BodyNP (fuel : Nat) : Prop :=
  (∀ members named fctx, (∀ fc ∈ members, s ∈ descentSites → GoodFC ctx fc) → (s ∈ descentSites → THok ctx (hintOf ctx fctx)) →
      KeyOK s fctx → NP s (structInitBlockInner fuel members named ctx fctx)) ∧
  (∀ members named fctx th frags idx, (∀ fc ∈ members, s ∈ descentSites → GoodFC ctx fc) → (s ∈ descentSites → THok ctx th) →
      KeyOK s fctx → NP s (structInitLoop fuel members named ctx fctx th frags idx)) ∧
  (∀ cp fields depth th line, (∀ fc ∈ fields, s ∈ descentSites → GoodFC ctx fc) → (s ∈ descentSites → THok ctx th) →
      (s ∈ descentSites → Decl ctx cp) → NP s (line ()) → NP s (renderChildFragment fuel cp fields ctx depth th line)) ∧
  (∀ field pc fields named depth lh idx, (∀ fc ∈ fields, s ∈ descentSites → GoodFC ctx fc) →
      (s ∈ descentSites → ctx.kind.isFrom = true → (field.ty.isSome = true ∧ ∀ i ∈ pc.subPath, i.2.isSome = true)) →
      NP s (renderParentChildFragment fuel field pc fields named ctx depth lh idx)) ∧
  (∀ cd fields named cp depth hint, (∀ fc ∈ fields, s ∈ descentSites → GoodFC ctx fc) → (s ∈ descentSites → THok ctx cd.typeHint) →
      (s ∈ descentSites → hint ≠ .unit) → (s ∈ descentSites → cp.WF ∧ depth < cp.strs.length) →
      NP s (renderChild fuel cd fields named ctx cp depth hint)) ∧
  (∀ fields named cp depth, (∀ fc ∈ fields, s ∈ descentSites → GoodFC ctx fc) → (s ∈ descentSites → cp.WF ∧ depth < cp.strs.length) →
      NP s (renderExistingChild fuel fields named ctx cp depth))

theorem body_np : ∀ fuel, BodyNP s ctx fuel := by
  intro fuel
  -- to show `site ≠ s` for a site of the descent one may assume `s ∈ descentSites` (else `s` is no such site), and with
  -- it what is known of the input; the nine sites and the four of `hA`, each by name
  have hD : ∀ site ∈ coreSites.drop 4, (s ∈ descentSites → site ≠ s) → site ≠ s := fun site h k e => k (e ▸ h) e
  simp only [coreSites, List.drop, List.forall_mem_cons] at hD
  obtain ⟨neCpa, neCd, neSub, neTy, neIdx, ne15, ne2, neGhost, neStr, _⟩ := hD
  simp only [lineSites, List.forall_mem_cons] at hA
  obtain ⟨ne6, ne8, ne18, ne19, _⟩ := hA
  have hstr : ∀ {cp : ChildPath} {d : Nat}, (s ∈ descentSites → d < cp.strs.length) → NP s (cp.getStr (some d)) :=
    fun h => getStr_np s _ _ (fun _ hn hnone => neStr fun hg => by
      cases hn
      simp [List.getElem?_eq_getElem (h hg)] at hnone)
  -- the entry of a level is one of the `#[child_parents]` entries
  have hnu : ∀ {key cd}, s ∈ descentSites → levelEntry ctx key = some cd → cd.typeHint ≠ .unit :=
    fun hg h => have ⟨cpa, hm, hc⟩ := levelEntry_mem h; hunit hg cpa hm _ hc
  induction fuel with
  | zero =>
    refine ⟨?_, ?_, ?_, ?_, ?_, ?_⟩
    · intros; unfold structInitBlockInner; exact NP.error_unsupported
    · intros; unfold structInitLoop; exact NP.error_unsupported
    · intros; unfold renderChildFragment; exact NP.error_unsupported
    · intros; unfold renderParentChildFragment; exact NP.error_unsupported
    · intros; unfold renderChild; exact NP.error_unsupported
    · intros; unfold renderExistingChild; exact NP.error_unsupported
  | succ fuel ih =>
    obtain ⟨ihInner, ihLoop, ihCF, ihPCF, ihChild, ihEx⟩ := ih
    refine ⟨?_, ?_, ?_, ?_, ?_, ?_⟩
    · intro members named fctx hgood hth hkey
      exact structInitBlockInner_np hok.2 hkey (ihLoop _ _ _ _ _ _ hgood hth hkey)
        (fun hnf hu => ne2 fun hg => absurd hu (hth hg hnf))
    · intro members named fctx th frags idx hgood hth hkey
      refine structInitLoop_np hok.1 hkey hgood (fun l _ _ hl => ihLoop _ _ _ _ _ _ hl hth hkey) (fun fc rest _ hfcg _ => ?_)
      unfold GoodFC at hfcg
      split
      · rename_i f hfd
        simp only [hfd] at hfcg
        intro hskip
        have hline : ∀ hint, NP s (renderStructLine f ctx hint idx none) := fun hint =>
          structLine_np s f ctx hint idx hskip
            (fun _ _ _ _ _ => ne6) (fun _ _ _ _ _ _ _ => ne8)
        split
        · exact ihCF _ _ _ _ _ hgood hth (fun hg => hfcg hg _ ‹_›) (hline _)
        · exact hline _
      · -- a struct-level ghost entry: it has a child path, declared at every level
        rename_i g hfd
        simp only [hfd] at hfcg
        split
        · rename_i cp hcp
          simp only [hcp, Option.some.injEq, exists_eq_left'] at hfcg
          exact ihCF _ _ _ _ _ hgood hth hfcg NP.ok
        · rename_i hcp
          simp only [hcp, reduceCtorEq, false_and, exists_false] at hfcg
          exact neGhost fun hg => (hfcg hg).elim
      · rename_i f pc hfd
        simp only [hfd] at hfcg
        exact fun _ _ => ihPCF _ _ _ _ _ _ _ hgood hfcg
    · intro cp fields depth th line hgood hth hdecl hline
      have hnd : s ∈ descentSites → deeperThan depth (cp.strs.length - 1) = true → nextDepth depth < cp.strs.length :=
        fun hg hdeep => Nat.lt_of_le_of_lt (nextDepth_le hdeep) (Nat.pred_lt (Nat.ne_of_gt (WF_pos cp (hdecl hg).1)))
      refine renderChildFragment_np hok.1 (fun _ => hline) (fun hdeep hcls => ?_)
        (fun hdeep _ _ => ihEx _ _ _ _ hgood fun hg => ⟨(hdecl hg).1, hnd hg hdeep⟩)
      -- Into: every level of the path has its `#[child_parents]` entry
      have hall := fun hg path hp => childLevelMsg_none ((hdecl hg).2 hcls path hp)
      refine ⟨fun hnone => neCpa fun hg => ?_, hstr fun hg => hnd hg hdeep, fun key hkey => ?_⟩
      · obtain ⟨cd, hcd⟩ := hall hg _ (List.getElem_mem (WF_pos cp (hdecl hg).1))
        simp [levelEntry, hnone] at hcd
      split
      · rename_i hnone
        refine neCd fun hg => ?_
        obtain ⟨cd, hcd⟩ := hall hg key (List.mem_of_getElem? hkey)
        rw [hnone] at hcd
        cases hcd
      · rename_i cd hcd
        exact fun _ => ihChild _ _ _ _ _ _ hgood (fun hg _ => hnu hg hcd)
          (fun hg => hth hg (cls_into_not_from hcls)) (fun hg => ⟨(hdecl hg).1, hnd hg hdeep⟩)
    · intro field pc fields named depth lh idx hgood hty
      refine renderParentChildFragment_np hok.1 (parentLine_np s _ _ _ _ _ ?_ ?_) (fun hdeep hfrom => ?_)
      · exact fun _ _ _ _ _ _ _ => ne18
      · exact fun _ _ _ _ _ => ne19
      · refine ⟨fun d m _ hget => neSub fun hg => ?_,
          fun _ hnone => neTy fun hg => ?_, fun ty nm => ?_⟩
        · have := (hty hg hfrom).2 _ (List.mem_of_getElem? hget)
          simp at this
        · have := (hty hg hfrom).1
          simp [hnone] at this
        · refine ihChild _ _ _ _ _ _ hgood (fun _ hnf => by simp [hfrom] at hnf) (fun _ => by cases nm <;> simp)
            (fun _ => ⟨ofMembers_WF _ _, ?_⟩)
          have hlen : (ChildPath.ofMembers (field.member :: pc.subPath.map (·.1))).strs.length = pc.subPath.length + 1 := by
            simp [ChildPath.ofMembers, buildChildPathStr_length]
          rw [hlen]
          exact Nat.lt_succ_of_le (nextDepth_le hdeep)
    · intro cd fields named cp depth hint hgood hcd hhint hlev
      refine renderChild_np hok.1 (fun hnone => neIdx fun hg => ?_)
        (ihInner _ _ _ hgood (fun hg => by simpa [hintOf] using hcd hg) (KeyOK.level (hstr fun hg => (hlev hg).2)))
        (fun hu => ne15 fun hg => absurd hu (hhint hg))
      have : depth < cp.path.length := by rw [← (hlev hg).1.1]; exact (hlev hg).2
      simp [List.getElem?_eq_getElem this] at hnone
    · intro fields named cp depth hgood hlev
      refine renderExistingChild_np (hstr fun hg => (hlev hg).2) (fun key _ => ?_)
      refine ihInner _ _ _ hgood (fun hg => ?_) (KeyOK.level (hstr fun hg => (hlev hg).2))
      -- the shape of the level: its #[child_parents] entry (never `Unit`), else the counterpart's own
      cases hb : levelEntry ctx key with
      | none => simpa [hintOf, hb] using htop hg
      | some cd =>
        simp only [hintOf, Option.map_some]
        exact fun _ => hnu hg hb
end

/-- a struct body off the sites of the descent: what is asked of the input (no `#[child_parents]` entry `as Unit`, `GoodFC`
    entries) is asked for `s ∈ descentSites` only -/
theorem structInitBlock_np_v (s : String) (hA : ∀ site ∈ lineSites, site ≠ s) (input : Struct) (ctx : ImplContext)
    (hok : CtxOK s ctx)
    (hunit : s ∈ descentSites → ∀ ca ∈ ctx.input.attrs.childParentsAttrs, ∀ cd ∈ ca.childParents, cd.typeHint ≠ .unit)
    (hgood : ∀ fc ∈ groupedMembers input ctx, s ∈ descentSites → GoodFC ctx fc) : NP s (structInitBlock input ctx) := by
  unfold structInitBlock
  split
  · exact NP.pure
  · rename_i hguard
    have htop : THok ctx ctx.structAttr.typeHint := by
      intro hnf hu
      apply hguard
      simp [hnf, hu]
    exact NP.bind ((body_np s hA ctx hok hunit (fun _ => htop) _).1 _ _ _ hgood (fun _ => htop) KeyOK.top) (fun _ => NP.pure)

theorem structInitBlock_np_core (s : String) (hA : ∀ site ∈ coreSites, site ≠ s) (input : Struct) (ctx : ImplContext)
    (hok : CtxOK s ctx) : NP s (structInitBlock input ctx) :=
  -- `lineSites` are the first four of `coreSites`, `descentSites` the rest: `s` is no site of the descent, nothing is
  -- asked of the input
  have hD : s ∉ descentSites := fun h => hA s (List.mem_of_mem_drop h) rfl
  structInitBlock_np_v s (fun site h => hA site (List.mem_of_mem_take (i := 4) h)) input ctx hok hD.elim fun _ _ => hD.elim

/-- C16 (struct bodies, all sites at once): for every struct, every conversion and every input — validated or not —
    `struct_init_block` either yields tokens, or reports exhausted fuel (`unsupported`, never agreement), or stops at one
    of the fourteen sites of `bodySites` (the conversion context refers to a struct — the deriving struct itself, or the
    variant being rendered: that is how `struct_init_block` is always called, see `C16_expansion_panics`). In particular
    it never reaches `render_parent`'s `unreachable!("5")`, `render_ghost_line`'s `("7")`, `get_ident`'s `("9")`,
    `get_field_name_or`'s `("10")`, `get_stuff`'s `ghost_attr.action.unwrap()`, the index
    `parent_child_field.sub_path[depth]`, `variant_destruct_block`'s `("4")`, `render_enum_ghost_line`'s `("17")`, the
    `todo!()`s, an `err_ty.unwrap()` or `DataType::named_fields`' `panic!`. -/
theorem C16_struct_body_panics (input : Struct) (ctx : ImplContext) (s : String) (hin : ctx.input.isEnum = false)
    (h : structInitBlock input ctx = .error (.panic s)) : s ∈ bodySites :=
  NP.sites bodySites (fun s hB => structInitBlock_np_core s (fun site hs => hB site (List.mem_append_left _ hs)) input ctx
    ⟨hin, ghostsOK_of_ne s (hB _ (by simp [bodySites])) _⟩) s h

/-- the sites named in the statement above are indeed outside the list -/
example : ["expand.rs:render_parent:unreachable(5)", "expand.rs:render_ghost_line:unreachable(7)",
    "expand.rs:ApplicableAttr::get_ident:unreachable(9)", "expand.rs:ApplicableAttr::get_field_name_or:unreachable(10)",
    "expand.rs:ApplicableAttr::get_stuff:ghost action unwrap", "expand.rs:render_parent_child_fragment:sub_path index",
    "expand.rs:variant_destruct_block:unreachable(4)", "expand.rs:render_enum_ghost_line:unreachable(17)",
    "expand.rs:struct_post_init:todo", "expand.rs:render_enum_line:todo", "expand.rs:quote_try_*_trait:err_ty unwrap",
    "ast.rs:DataType::named_fields:panic"].all
    (fun x => !bodySites.contains x) = true := by simp [bodySites, coreSites]

/-- and every entry of the list is a label the model can answer with (a row of the regenerated inventory) -/
example : bodySites.all (fun x => modelledLabels.contains x) = true := by
  -- by position: a literal is recognised where it stands in the list; unequal literals are never compared
  simp only [bodySites, coreSites, modelledLabels_eq, List.cons_append, List.nil_append, List.all_cons, List.all_nil,
    List.contains_cons, beq_self_eq_true, Bool.or_true, Bool.true_or, Bool.and_true]

theorem mapM_np_mem {α β : Type} (s : String) (f : α → E β) : ∀ l : List α, (∀ a ∈ l, NP s (f a)) → NP s (l.mapM f) := by
  intro l
  induction l with
  | nil => intro _; exact NP.pure
  | cons a rest ih =>
    intro hf
    simp only [List.mapM_cons]
    exact NP.bind (hf a List.mem_cons_self)
      (fun _ => NP.bind (ih (fun a' ha' => hf a' (List.mem_cons_of_mem _ ha'))) (fun _ => NP.pure))

/-- the struct a variant is presented as (the `variantStruct` of `renderEnumLine`) -/
def variantStructOf (v : Variant) : Struct :=
  { attrs := { ghostsAttrs := v.attrs.ghostsAttrs }, ident := v.ident, generics := [],
    fields := v.fields, namedFields := v.namedFields, unit := v.unit }

/-- .. and the context its body is rendered in (the `new_ctx` of `render_enum_line`): the variant's own shape hint -/
def variantCtx (v : Variant) (ctx : ImplContext) : ImplContext :=
  { ctx with
    input := .struct (variantStructOf v)
    structAttr := { ctx.structAttr with typeHint := match v.attrs.typeHint ctx.ty with | some x => x.typeHint | none => .unspecified }
    implType := .variant }

theorem variantCtx_typeHint (v : Variant) (ctx : ImplContext) :
    (variantCtx v ctx).structAttr.typeHint = variantHintFor v ctx.structAttr := by
  simp only [variantCtx, variantHintFor, ImplContext.ty]
  cases v.attrs.typeHint ctx.structAttr.ty <;> rfl

/-- combination by combination the classes that `enumArmSupported` leaves are the seven arms of `render_enum_line`'s
    closing `match` -/
theorem enumArmSupported_cls {attr lit pat : Bool} {k : Kind} :
    enumArmSupported attr lit pat k = true →
      match attr, lit, pat with
      | false, false, false => True
      | true, false, false | false, true, false => k.cls = .from_ ∨ k.cls = .into
      | false, false, true => k.cls = .from_
      | true, false, true => k.cls = .into
      | _, _, _ => False := by
  unfold enumArmSupported Kind.cls
  generalize k.isFrom = f
  generalize k.isIntoExisting = e
  cases attr <;> cases lit <;> cases pat <;> revert f e <;> decide

/-- nothing is asked for the accessors: on the From side the instruction of a contributing variant is no ghost, on the Into
    side a ghost has a default; the closing `todo!()` stands for the combinations that `enumArmSupported` excludes -/
theorem renderEnumLine_np (s : String) (v : Variant) (ctx : ImplContext) (hc : variantContributes ctx v = true)
    (hok : GhostsOK s v.attrs.ghostsAttrs)
    (hbody : (match v.attrs.applicableAttr ctx.kind ctx.fallible ctx.ty with | some a => a.hasAction | none => false) = false →
      NP s (structInitBlock (variantStructOf v) (variantCtx v ctx)))
    (htodo : "expand.rs:render_enum_line:todo" ≠ s ∨
      enumArmSupported (v.attrs.applicableAttr ctx.kind ctx.fallible ctx.ty).isSome (v.attrs.lit ctx.ty).isSome
        (v.attrs.pat ctx.ty).isSome ctx.kind = true) :
    NP s (renderEnumLine v ctx) := by
  unfold renderEnumLine
  refine NP.bind ?_ (fun destr => NP.bind ?_ (fun init => ?_))
  · exact NP.ite (fun _ => NP.pure) (fun _ => NP.ite (fun _ => NP.pure) (fun _ =>
      NP.ite (fun _ => NP.pure) (fun _ => variantDestructBlock_np s _ _ hok)))
  · exact NP.ite (fun _ => NP.pure) (fun hna => hbody (by simp at hna; exact hna.1))
  · split
    · exact NP.pure
    · rename_i a hattr _ _ hcls
      refine NP.bind getActionOr_np (fun _ => NP.bind (getFieldNameOr_np ?_) (fun _ => NP.pure))
      exact fun g hg => absurd (hg ▸ hattr) (C16_variant_not_ghost_from ctx v (cls_from hcls) hc g)
    · rename_i a hattr _ _ hcls
      refine NP.bind (getStuff_np (fun g hg hnone => ?_)) (fun _ => NP.pure)
      have hgl := applicableAttr_ghost_iff.mp (hg ▸ hattr)
      simp [variantContributes, cls_into_not_from hcls, ghostNoDefault, hgl, hnone] at hc
    · exact NP.pure
    · exact NP.pure
    · exact NP.pure
    · exact NP.bind getActionOr_np (fun _ => NP.pure)
    · rcases htodo with h | hsup
      · exact NP.panicAt h
      · -- none of the seven arms matched (`h1` .. `h7`), yet the combination is supported: for each presence of instruction,
        -- literal and pattern, `hk` says which class is left, and that is one of the arms
        exfalso
        rename_i h1 h2 h3 h4 h5 h6 h7
        have hk := enumArmSupported_cls hsup
        revert hk
        cases hattr : v.attrs.applicableAttr ctx.kind ctx.fallible ctx.ty <;> cases hlit : v.attrs.lit ctx.ty <;>
          cases hpat : v.attrs.pat ctx.ty <;> intro hk
        · exact h1 hattr hlit hpat
        · exact h6 _ hattr hlit hpat hk
        · rcases hk with hk | hk
          · exact h4 _ hattr hlit hpat hk
          · exact h5 _ hattr hlit hpat hk
        · exact hk
        · rcases hk with hk | hk
          · exact h2 _ hattr hlit hpat hk
          · exact h3 _ hattr hlit hpat hk
        · exact h7 _ _ hattr hlit hpat hk
        · exact hk
        · exact hk

theorem enumInitBlock_np (s : String) (input : Enum) (ctx : ImplContext)
    (harm : ∀ v ∈ input.variants, variantContributes ctx v = true → NP s (renderEnumLine v ctx))
    (h17 : ∀ g ∈ enumGhostData input ctx, NP s (renderEnumGhostLine g ctx)) : NP s (enumInitBlock input ctx) := by
  unfold enumInitBlock
  refine NP.bind (NP.foldlM_mem (fun acc v hv => ?_)) (fun _ =>
    NP.bind (NP.foldlM_mem (fun acc g hg => NP.bind (h17 g hg) (fun _ => NP.pure))) (fun _ => NP.pure))
  unfold enumArmStep
  split
  · exact NP.bind (harm v hv ‹_›) (fun _ => NP.pure)
  · exact NP.pure

theorem mainBody_np (s : String) (ctx : ImplContext) (hS : ∀ st, ctx.input = .struct st → NP s (structInitBlock st ctx))
    (hE : ∀ e, ctx.input = .enum e → NP s (enumInitBlock e ctx)) :
    NP s (match ctx.input with | .struct st => structMainCodeBlock st ctx | .enum e => enumMainCodeBlock e ctx) := by
  split
  · unfold structMainCodeBlock
    refine NP.bind (hS _ ‹_›) (fun _ => ?_)
    split <;> exact NP.pure
  · unfold enumMainCodeBlock
    refine NP.bind (hE _ ‹_›) (fun _ => ?_)
    split <;> exact NP.pure

theorem renderParent_np (s : String) (f : Field) (ctx : ImplContext) (h : ctx.kind.isFrom = false) : NP s (renderParent f ctx) :=
  NP.of_total (C16_site_render_parent f ctx h)

theorem postInitOf_np (s : String) (input : DataType) (ctx : ImplContext)
    (htodo : ∀ v, .variant v ∈ input.members → v.attrs.hasParameterlessParentAttr ctx.ty = true → "expand.rs:struct_post_init:todo" ≠ s) :
    NP s (postInitOf input ctx) := by
  unfold postInitOf structPostInit
  refine NP.ite (fun _ => NP.pure) (fun _ => ?_)
  refine NP.bind (NP.foldlM_mem (fun acc m hm => ?_)) (fun _ => NP.ite_pure)
  -- the step's own guard says that the conversion is no From
  refine NP.ite (fun hpar => ?_) (fun _ => NP.pure)
  simp only [Bool.and_eq_true, Bool.not_eq_true'] at hpar
  split
  · exact NP.bind (renderParent_np s _ _ hpar.1) (fun _ => NP.pure)
  · exact NP.panicAt (htodo _ hm hpar.2)

theorem quoteTrait_np (s : String) (input : DataType) (ctx : ImplContext) (hpost : NP s (postInitOf input ctx))
    (hbody : ∀ b, ctx.structAttr.quickReturn = none →
      (∀ st, ctx.input = .struct st → NP s (structInitBlock st { ctx with hasPostInit := b })) ∧
      (∀ e, ctx.input = .enum e → NP s (enumInitBlock e { ctx with hasPostInit := b })))
    (herr : ctx.fallible = true → NP s (errTyPath ctx)) : NP s (quoteTrait input ctx) := by
  have hmain : ∀ b, NP s (mainCodeBlock { ctx with hasPostInit := b }) := by
    intro b
    unfold mainCodeBlock
    split
    · exact NP.ok
    · exact mainBody_np s _ (hbody b ‹_›).1 (hbody b ‹_›).2
  have hmainOk : ∀ b, NP s (mainCodeBlockOk { ctx with hasPostInit := b }) := by
    intro b
    unfold mainCodeBlockOk
    split
    · exact NP.ok
    · exact NP.bind (mainBody_np s _ (hbody b ‹_›).1 (hbody b ‹_›).2) (fun _ => NP.ite_pure)
  unfold quoteTrait
  simp only []
  refine NP.bind hpost (fun pi => ?_)
  split
  · exact NP.bind (hmain _) (fun _ => NP.pure)
  · exact NP.bind (hmainOk _) (fun _ => NP.bind (herr ‹_›) (fun _ => NP.pure))
  · exact NP.bind (hmain _) (fun _ => NP.pure)
  · exact NP.bind (hmainOk _) (fun _ => NP.bind (herr ‹_›) (fun _ => NP.pure))
  · exact NP.bind (hmain _) (fun _ => NP.pure)
  · exact NP.bind (hmain _) (fun _ => NP.bind (herr ‹_›) (fun _ => NP.pure))

/-- the sites the expansion of a *validated* input can stop at (as far as proved): the core sites of a struct body, the
    `todo!()` of `render_enum_line` (a listed finding) and the one of `struct_post_init` -/
def validatedSites : List String := coreSites ++ [
  "expand.rs:render_enum_line:todo",
  "expand.rs:struct_post_init:todo"]

/-- every site the expansion of any parsed input can stop at: three more, which validation closes -/
def expansionSites : List String := validatedSites ++ [
  "attr.rs:GhostIdent::get_ident:unreachable(16)",
  "expand.rs:render_enum_ghost_line:unreachable(17)",
  "expand.rs:quote_try_*_trait:err_ty unwrap"]

theorem mem_kindOrderInto (k : Kind) : k ∈ kindOrderInto := by
  cases k <;> simp [kindOrderInto]

/-- `attrsByKind` and `traitAttrsByKind` list what a selection `sel` gives kind by kind, the infallible ones first: nothing
    is left out -/
theorem mem_byKind {α : Type} (sel : Kind → Bool → List α) {k : Kind} {fl : Bool} {x : α} (h : x ∈ sel k fl) :
    (x, k) ∈ (kindOrderInto.flatMap fun k => (sel k false).map fun x => (x, k)) ++
      (kindOrderInto.flatMap fun k => (sel k true).map fun x => (x, k)) := by
  cases fl with
  | false => exact List.mem_append_left _ (List.mem_flatMap.mpr ⟨k, mem_kindOrderInto k, List.mem_map.mpr ⟨x, h, rfl⟩⟩)
  | true => exact List.mem_append_right _ (List.mem_flatMap.mpr ⟨k, mem_kindOrderInto k, List.mem_map.mpr ⟨x, h, rfl⟩⟩)

/-- what a conversion context shares with the trait instruction it was made for (stable under `quote_trait`'s
    `has_post_init` switch) -/
def CtxOf (input : DataType) (ctx : ImplContext) : Prop :=
  ctx.input = input ∧ (ctx.structAttr, ctx.kind) ∈ attrsByKind input.attrs ∧
  ∃ ta, (ta, ctx.kind) ∈ traitAttrsByKind input.attrs ∧ ta.core = ctx.structAttr ∧ ta.fallible = ctx.fallible

theorem ctxOf_of_mem {input : DataType} (ctx : ImplContext) (hctx : ctx ∈ implContexts input) : CtxOf input ctx := by
  obtain ⟨hin, ta, hta, hcore⟩ := mem_implContexts hctx
  have hfl : ta.fallible = ctx.fallible := by
    simp only [DataTypeAttrs.iterForKind, List.mem_filter, Bool.and_eq_true, beq_iff_eq] at hta
    exact hta.2.1
  have hsa : ctx.structAttr ∈ input.attrs.iterForKindCore ctx.kind ctx.fallible := List.mem_map.mpr ⟨ta, hta, hcore⟩
  exact ⟨hin, mem_byKind input.attrs.iterForKindCore hsa, ta, mem_byKind input.attrs.iterForKind hta, hcore, hfl⟩

/-- the expansion stage from its parts; `b` is `quote_trait`'s `has_post_init` switch -/
theorem dataTypeImpls_np (s : String) (input : DataType)
    (hpost : ∀ ctx ∈ implContexts input, NP s (postInitOf input ctx))
    (hS : ∀ ctx ∈ implContexts input, ctx.structAttr.quickReturn = none → ∀ b st, input = .struct st →
      NP s (structInitBlock st { ctx with hasPostInit := b }))
    (hV : ∀ ctx ∈ implContexts input, ctx.structAttr.quickReturn = none → ∀ b e, input = .enum e → ∀ v ∈ e.variants,
      variantContributes ctx v = true → NP s (renderEnumLine v { ctx with hasPostInit := b }))
    (h17 : ∀ e, input = .enum e → ∀ ctx, ∀ g ∈ enumGhostData e ctx, NP s (renderEnumGhostLine g ctx))
    (herr : ∀ ctx ∈ implContexts input, ctx.fallible = true → NP s (errTyPath ctx)) : NP s (dataTypeImpls input) := by
  unfold dataTypeImpls
  refine mapM_np_mem s _ _ (fun ctx hctx => ?_)
  have hin := (ctxOf_of_mem ctx hctx).1
  refine quoteTrait_np s input ctx (hpost ctx hctx) (fun b hq => ⟨fun st hst => ?_, fun e he => ?_⟩) (herr ctx hctx)
  · exact hS ctx hctx hq b st (hin ▸ hst)
  · exact enumInitBlock_np s e _ (fun v hv hc => hV ctx hctx hq b e (hin ▸ he) v hv hc) (h17 e (hin ▸ he) _)

theorem dataTypeImpls_np_core (s : String) (hA : ∀ site ∈ validatedSites, site ≠ s) (input : DataType)
    (hgs : ∀ st, input = .struct st → GhostsOK s st.attrs.ghostsAttrs)
    (hgv : ∀ e, input = .enum e → ∀ v ∈ e.variants, GhostsOK s v.attrs.ghostsAttrs)
    (h17 : ∀ e, input = .enum e → ∀ ctx, ∀ g ∈ enumGhostData e ctx, NP s (renderEnumGhostLine g ctx))
    (herr : ∀ ctx ∈ implContexts input, ctx.fallible = true → NP s (errTyPath ctx)) : NP s (dataTypeImpls input) := by
  have hcore : ∀ site ∈ coreSites, site ≠ s := fun site h => hA site (List.mem_append_left _ h)
  refine dataTypeImpls_np s input (fun ctx _ => postInitOf_np s _ _ (fun _ _ _ => hA _ (by simp [validatedSites])))
    (fun ctx hctx _ b st hst => ?_) (fun ctx _ _ b e he v hv hc => ?_) h17 herr
  · have hin : ctx.input = .struct st := hst ▸ (ctxOf_of_mem ctx hctx).1
    exact structInitBlock_np_core s hcore st _ ⟨by simp [DataType.isEnum, hin], by rw [hin]; exact hgs st hst⟩
  · have hok := hgv e he v hv
    exact renderEnumLine_np s v _ hc hok (fun _ => structInitBlock_np_core s hcore _ _ ⟨rfl, hok⟩)
      (Or.inl (hA _ (by simp [validatedSites])))

theorem validated_np (s : String) (input : DataType) (hv : validate input = []) :
    (∀ st, input = .struct st → GhostsOK s st.attrs.ghostsAttrs) ∧
    (∀ e, input = .enum e → ∀ v ∈ e.variants, GhostsOK s v.attrs.ghostsAttrs) ∧
    (∀ e, input = .enum e → ∀ ctx, ∀ g ∈ enumGhostData e ctx, NP s (renderEnumGhostLine g ctx)) ∧
    (∀ ctx ∈ implContexts input, ctx.fallible = true → NP s (errTyPath ctx)) := by
  refine ⟨fun st hst ga hga g hg => ?_, fun e he v hvm ga hga g hg => ?_, fun e he ctx g hg => ?_, fun ctx hctx hf => ?_⟩
  · subst hst
    exact NP.of_total (C16_site_16_struct st hv ga hga g hg)
  · subst he
    exact NP.of_total (C16_site_16_variant e hv v hvm ga hga g hg)
  · subst he
    unfold enumGhostData at hg
    split at hg
    · rename_i ga hga
      obtain ⟨x, hx, rfl⟩ := ghostsAttr_mem hga
      exact NP.of_total (C16_site_17_unreachable e hv x hx g hg ctx)
    · cases hg
  · exact NP.of_total (C16_err_ty_sites_unreachable input ctx hv hctx hf)

/-- C16 (the whole expansion stage, all sites at once): for every parsed input — validated or not — generating the
    impls either succeeds, or reports exhausted fuel, or stops at one of the eighteen sites of `expansionSites`. The other
    panic sites of `expand.rs` — `variant_destruct_block`'s `unreachable!("4")`, `render_parent`'s `("5")`,
    `render_ghost_line`'s `("7")`, `get_ident`'s `("9")`, `get_field_name_or`'s `("10")`,
    `get_stuff`'s `ghost_attr.action.unwrap()`, the index `sub_path[depth]` and `DataType::named_fields`' `panic!` (the
    descent only ever runs over a struct or over one variant presented as a struct) — cannot be reached by any input. -/
theorem C16_expansion_panics (input : DataType) (s : String)
    (h : dataTypeImpls input = .error (.panic s)) : s ∈ expansionSites := by
  refine NP.sites expansionSites (fun s hE => ?_) s h
  have hok : ∀ gas, GhostsOK s gas := ghostsOK_of_ne s (hE _ (by simp [expansionSites]))
  refine dataTypeImpls_np_core s (fun site hs => hE site (List.mem_append_left _ hs)) input (fun _ _ => hok _) (fun _ _ _ _ => hok _)
    (fun e _ ctx g _ => ?_) (fun ctx _ _ => ?_)
  · unfold renderEnumGhostLine
    split
    · exact NP.panicAt (hE _ (by simp [expansionSites]))
    · exact NP.ite (fun _ => NP.ok) (fun _ => NP.ok)
    · exact NP.ite (fun _ => NP.ok) (fun _ => NP.ok)
  · unfold errTyPath
    split
    · exact NP.ok
    · exact NP.panicAt (hE _ (by simp [expansionSites]))

/-- the eight sites named above are rows of the regenerated inventory and outside the list -/
example : ["expand.rs:variant_destruct_block:unreachable(4)", "expand.rs:render_parent:unreachable(5)",
    "expand.rs:render_ghost_line:unreachable(7)", "expand.rs:ApplicableAttr::get_ident:unreachable(9)",
    "expand.rs:ApplicableAttr::get_field_name_or:unreachable(10)", "expand.rs:ApplicableAttr::get_stuff:ghost action unwrap",
    "expand.rs:render_parent_child_fragment:sub_path index", "ast.rs:DataType::named_fields:panic"].all
    (fun x => modelledLabels.contains x && !expansionSites.contains x) = true := by
  -- where each stands in `modelledLabels`, by position; only the comparisons with `expansionSites` are evaluated
  simp only [modelledLabels_eq, List.all_cons, List.all_nil, List.contains_cons, beq_self_eq_true, Bool.or_true, Bool.true_or,
    Bool.true_and]
  simp [expansionSites, validatedSites, coreSites]

example : expansionSites.all (fun x => modelledLabels.contains x) = true := by
  simp only [expansionSites, validatedSites, coreSites, modelledLabels_eq, List.cons_append, List.nil_append, List.all_cons,
    List.all_nil, List.contains_cons, beq_self_eq_true, Bool.or_true, Bool.true_or, Bool.and_true]

/-- C16 (validated inputs): when validation accepts the input, the expansion cannot stop at `unreachable!("16")`,
    `unreachable!("17")` nor at an `err_ty.unwrap()` either — fifteen sites remain: the four listed `unreachable!`s of the
    member lines and the `todo!()` of `render_enum_line` (findings with witnesses), and ten for which the per-site
    theorems of `Props/C16.lean` give the condition validation establishes (`C16_ghost_child_paths_declared`,
    `C16_child_hint_not_unit`, `C16_parent_member_has_type`, `C16_site_ghost_child_path`) or nothing yet (the depth
    indices, `sub_path`'s type, `struct_post_init`'s `todo!()`). -/
theorem C16_validated_expansion_panics (input : DataType) (hv : validate input = []) (s : String)
    (h : dataTypeImpls input = .error (.panic s)) : s ∈ validatedSites := by
  refine NP.sites validatedSites (fun s hA => ?_) s h
  obtain ⟨hgs, hgv, h17, herr⟩ := validated_np s input hv
  exact dataTypeImpls_np_core s hA input hgs hgv h17 herr

theorem findArm_total {arms : List Gen.Arm} (h : arms.any (fun a => a.names.isEmpty && a.guard == .none) = true)
    (instr : String) (own bark : Bool) : (findArm arms instr own bark).isSome = true := by
  unfold findArm
  rw [List.find?_isSome]
  obtain ⟨a, ha, hp⟩ := List.any_eq_true.mp h
  simp only [Bool.and_eq_true, beq_iff_eq] at hp
  exact ⟨a, ha, by simp [hp.1, hp.2, guardOk]⟩

/-- C16 (`parse_data_type_instruction` / `parse_member_instruction`): the regenerated `match` tables of both dispatchers
    end in an unguarded `_ =>` arm — the model's "no arm" answer (a `match` that would not be exhaustive in Rust) can
    never be given -/
theorem C16_dispatch_total (instr : String) (own bark : Bool) :
    (findArm Gen.typeArms instr own bark).isSome = true ∧ (findArm Gen.memberArms instr own bark).isSome = true :=
  ⟨findArm_total (by decide) _ _ _, findArm_total (by decide) _ _ _⟩

end O2o
