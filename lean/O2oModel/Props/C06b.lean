/-
C06, whole conversion: the statement that needs the simulation of the recursive descent (`Lemmas/Projection.lean`,
which builds on the lookup theorems of `Props/C06.lean`).
-/
import O2oModel.Lemmas.Projection
namespace O2o

/-- the descent itself: at every fuel level, every function of the mutual block returns the same tokens on the projected
    member list, and hands back the projected remainder of the cursor -/
theorem C06_descent_commutes (ty : TypePath) (n : Nat) : Sim ty n :=
  match n with
  | 0 => sim_zero ty
  | n + 1 => sim_succ ty n (C06_descent_commutes ty n)

/-- **C06-2 (whole struct conversion, any number of members, any nesting, every kind).** Dropping from every member the
    instructions that are dedicated to *other* counterparts (`MemberAttrs.project`) leaves the body generated for this
    counterpart unchanged: the grouping of members by child path, their ordering, and the whole recursive descent of
    `struct_init_block_inner` (nested structs, parameterised parents, ghost-only children) commute with the projection.
    Together with `C06_ghosts_attr`, `C06_where_attr`, `C06_child_parents_attr` (the type-level lookups) this is
    non-interference for struct conversions. -/
theorem C06_struct_conversion_projection (s : Struct) (ctx : ImplContext) :
    structInitBlock (s.projectMembers ctx.ty) ctx = structInitBlock s ctx := by
  unfold structInitBlock
  have hu : (s.projectMembers ctx.ty).unit = s.unit := rfl
  have hn : (s.projectMembers ctx.ty).namedFields = s.namedFields := rfl
  simp only [hu, hn, groupedMembers_proj, List.length_map]
  split
  · rfl
  · rw [(C06_descent_commutes ctx.ty _).inner _ _ _ _ rfl]
    cases structInitBlockInner _ (groupedMembers s ctx) s.namedFields ctx none <;> rfl

end O2o
