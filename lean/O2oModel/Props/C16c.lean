/-
C16, third part — what validation establishes (about enum variants, the zone where panics were found and repaired
late: db73399, 08cc4d9, b5897ad, 7690954; about the flattened members and the nested parents of a struct), and what follows for
the expansion stage: the induction over the descent (`body_np`, Props/C16b.lean), over member lists whose entries are *good*
(`GoodFC`: `goodFC_struct`, `goodFC_variant`), leaves the five listed findings (`C16_validated_only_findings`), and with
what the parser establishes (`Props/C16d.lean`) the same holds of `derive` (`C16_derive_panics_only_at_findings`).
-/
import O2oModel.Props.C16b
namespace O2o

theorem barkAtMemberAttr_reports {α : Type} {l : List α} (name : String) (h : l ≠ []) (es : Errors) :
    ("Instruction #[" ++ name ++ "(...)] is not supported for this member.") ∈ barkAtMemberAttr l.length name es :=
  mem_insertIf_self (List.length_pos_iff.mpr h)

/-- C16 (`struct_post_init`'s `todo!()`): an enum that validation accepts has no `#[parent]` on a variant -/
theorem C16_variant_no_parent (e : Enum) (hv : validate (.enum e) = []) (v : Variant) (hvm : v ∈ e.variants) :
    v.attrs.parentAttrs = [] :=
  Decidable.byContradiction fun hp =>
    not_reported hv (validate_of_variantParent e v hvm _ (barkAtMemberAttr_reports "parent" hp))

/-- C16 (fix db73399): in an enum that validation accepts no payload member of a variant is flattened -/
theorem C16_variant_field_no_child (e : Enum) (hv : validate (.enum e) = []) (v : Variant) (hvm : v ∈ e.variants)
    (f : Field) (hf : f ∈ v.fields) : f.attrs.childAttrs = [] :=
  Decidable.byContradiction fun hc =>
    not_reported hv (validate_of_payload e v hvm f hf .child _ (barkAtMemberAttr_reports "child" hc))

/-- C16 (fix b5897ad): .. and a payload member whose `#[parent(..)]` list a From conversion constructs has a path type -/
theorem C16_variant_field_parent_type (e : Enum) (hv : validate (.enum e) = []) (v : Variant) (hvm : v ∈ e.variants)
    (f : Field) (hf : f ∈ v.fields)
    (hp : f.attrs.parentAttrs.any (parentNeedsType (attrsByKind (DataType.enum e).attrs)) = true) : f.ty.isSome = true := by
  cases hty : f.ty with
  | some t => rfl
  | none =>
    exact (not_reported hv (validate_of_payload e v hvm f hf .parentType _
      (parentTypePass_reports f _ hty hp))).elim

/-- C16 (fix 08cc4d9): .. and no variant-level `#[ghosts]` entry is addressed to a nested struct -/
theorem C16_variant_ghost_no_child_path (e : Enum) (hv : validate (.enum e) = []) (v : Variant) (hvm : v ∈ e.variants)
    (ga : GhostsAttr) (hga : ga ∈ v.attrs.ghostsAttrs) (g : GhostData) (hg : g ∈ ga.attr.ghostData) : g.childPath = none := by
  cases hcp : g.childPath with
  | none => rfl
  | some cp =>
    exact (not_reported hv (validate_of_variantGhost e v hvm g (List.mem_flatMap.mpr ⟨ga, hga, hg⟩) _
      fun _ => mem_insertIf_self (by rw [hcp]; rfl))).elim

theorem TypePath.beq_iff {a b : TypePath} : (a == b) = true ↔ a.pathStr = b.pathStr := by
  show (a.pathStr == b.pathStr) = true ↔ _
  simp

theorem isSomeEq_iff {c : Option TypePath} {ty : TypePath} : isSomeEq c ty = true ↔ ∃ t, c = some t ∧ t.pathStr = ty.pathStr := by
  cases c with
  | none => simp [isSomeEq]
  | some t => simp [isSomeEq, TypePath.beq_iff]

/-- the lookups only look at the counterpart's printed path -/
theorem findDedicatedOrDefault_congr {α : Type} (xs : List α) (ok : α → Bool) (cty : α → Option TypePath) {a b : TypePath}
    (h : a.pathStr = b.pathStr) : findDedicatedOrDefault xs ok cty a = findDedicatedOrDefault xs ok cty b := by
  have : ∀ c : Option TypePath, isSomeEq c a = isSomeEq c b := fun c =>
    Bool.eq_iff_iff.mpr (by rw [isSomeEq_iff, isSomeEq_iff, h])
  simp only [findDedicatedOrDefault, this]

theorem childLevelMsg_congr (dta : DataTypeAttrs) (a b : TypePath) (h : a.pathStr = b.pathStr) (path : String) :
    childLevelMsg dta a path = childLevelMsg dta b path := by
  unfold childLevelMsg DataTypeAttrs.childParentsAttr
  rw [findDedicatedOrDefault_congr _ _ _ h, h]

theorem uniqueInOrder_has {l : List TypePath} {x : TypePath} (hx : x ∈ l) :
    ∃ y ∈ uniqueInOrder l, y.pathStr = x.pathStr := by
  -- when `x` has been read the accumulator holds a path printed like it, and nothing ever leaves the accumulator
  obtain ⟨pre, post, rfl⟩ := List.append_of_mem hx
  unfold uniqueInOrder
  rw [List.foldl_append, List.foldl_cons]
  refine List.foldlRecOn (motive := fun acc : List TypePath => ∃ y ∈ acc, y.pathStr = x.pathStr) post _ ?_
    (fun acc ⟨y, hy, hye⟩ t _ => ⟨y, by split <;> simp [hy], hye⟩)
  split
  · rename_i hc
    obtain ⟨w, hw, hwe⟩ := List.contains_iff_exists_mem_beq.mp hc
    exact ⟨w, hw, (TypePath.beq_iff.mp hwe).symm⟩
  · exact ⟨x, by simp, rfl⟩

theorem childPass_reports {dta : DataTypeAttrs} {tps into : List TypePath} (ca : ChildAttr) (ty : TypePath)
    (hinto : ∃ y ∈ into, y.pathStr = ty.pathStr)
    (happ : isSomeEq ca.containerTy ty = true ∨ ca.containerTy.isNone = true)
    (path : String) (hp : path ∈ ca.childPath.strs) (msg : String) (hm : childLevelMsg dta ty path = some msg) (es : Errors) :
    msg ∈ childPass dta tps into ca es := by
  obtain ⟨y, hy, hye⟩ := hinto
  have hrep : ∀ t : TypePath, t.pathStr = ty.pathStr → ∀ es, msg ∈ checkChildErrors ca dta t es := fun t ht =>
    checkChildPath_reports ca.childPath dta t path hp msg ((childLevelMsg_congr dta t ty ht path).trans hm)
  unfold childPass
  rcases happ with happ | happ
  · obtain ⟨t, ht, hte⟩ := isSomeEq_iff.mp happ
    have hc : into.contains t = true :=
      List.contains_iff_exists_mem_beq.mpr ⟨y, hy, TypePath.beq_iff.mpr (by rw [hte, hye])⟩
    simp only [ht, hc, if_true]
    exact hrep t hte _
  · cases hct : ca.containerTy with
    | some t => simp [hct] at happ
    | none => exact mem_foldl_of_step hy (fun z es hm' => ext_checkChildErrors ca dta z es _ hm') (hrep y hye)

/-- C16 (sites `render_child_fragment: child_parents_attr(..).unwrap()` / `.find(..).unwrap()`, flattened members): in a
    struct that validation accepts, every level of the path of the `#[child]` instruction that applies to an Into
    conversion has its `#[child_parents]` entry for that counterpart -/
theorem C16_member_child_paths_declared (s : Struct) (hv : validate (.struct s) = [])
    (a : TraitAttrCore) (k : Kind) (hx : (a, k) ∈ attrsByKind s.attrs) (hf : k.isFrom = false) (he : k.isIntoExisting = false)
    (f : Field) (hfm : f ∈ s.fields) (ca : ChildAttr) (hca : f.attrs.child a.ty = some ca)
    (path : String) (hp : path ∈ ca.childPath.strs) : childLevelMsg s.attrs a.ty path = none := by
  cases hm : childLevelMsg s.attrs a.ty path with
  | none => rfl
  | some msg =>
    obtain ⟨hmem, happ⟩ := findDedicatedOrDefault_some hca
    have hcam : ca ∈ s.fields.flatMap (·.attrs.childAttrs) := List.mem_flatMap.mpr ⟨f, hfm, hmem⟩
    exact (not_reported hv (validate_of_childPass s ca hcam msg
      (childPass_reports ca a.ty
        (uniqueInOrder_has (List.mem_map.mpr ⟨(a, k), List.mem_filter.mpr ⟨hx, by simp [hf, he]⟩, rfl⟩))
        happ path hp msg hm))).elim

/-- where `validate_parent_attrs` reports nothing, every nested parent of a `#[parent(..)]` list that a From conversion
    constructs carries its type -/
theorem nested_parent_types (named : Bool) (wa : List (TraitAttrCore × Kind × TypeHint)) (pas : List ParentAttr)
    (byKind : List (TraitAttrCore × Kind)) (hacc : ∀ m, ¬ ∀ es, m ∈ validateParentAttrs named wa pas byKind es)
    (pa : ParentAttr) (hpa : pa ∈ pas) (a : TraitAttrCore) (k : Kind) (hx : (a, k) ∈ byKind) (hk : k.isFrom = true)
    (happ : pa.containerTy.isNone = true ∨ isSomeEq pa.containerTy a.ty = true)
    (fs : List ParentChildField) (hfs : pa.childFields = some fs) (f : ParentChildField) (hf : f ∈ fs)
    (i : Member × Option TS) (hi : i ∈ f.subPath) : i.2.isSome = true := by
  cases hn : i.2 with
  | some t => rfl
  | none =>
    have hmem : (a, k) ∈ byKind.filter (fun (x : TraitAttrCore × Kind) => x.2.isFrom && (pa.containerTy.isNone || isSomeEq pa.containerTy x.1.ty)) := by
      simp only [List.mem_filter, Bool.and_eq_true, Bool.or_eq_true]
      exact ⟨hx, hk, happ⟩
    refine (hacc ("Field '" ++ i.1.str ++ "' should have type here, e.g. '" ++ i.1.str ++ ": SomeStruct'") fun es => ?_).elim
    unfold validateParentAttrs
    -- the step for one `#[parent]` instruction is the whole pass on that instruction alone
    refine mem_foldl_of_step hpa (fun pa' es => ext_validateParentAttrs named [] [pa'] byKind es _) (fun es => ?_)
    simp only [hfs]
    refine mem_foldl_of_step hmem (fun _ es hm => ext_foldl (fun _ => ext_foldl fun _ => ext_iteP _ (ext_insert _) ext_id) _ _ hm)
      (fun es => ?_)
    refine mem_foldl_of_step hf (fun _ es => ext_foldl (fun _ => ext_iteP _ (ext_insert _) ext_id) es _) (fun es => ?_)
    exact mem_foldl_of_step hi (fun _ _ hm => mem_insertIf hm) (fun _ => mem_insertIf_self (by simp [hn]))

/-- C16 (site `sub_path[depth].1.unwrap()`, struct members): in a struct that validation accepts, every nested parent
    of a `#[parent(..)]` list that a From conversion constructs carries its type -/
theorem C16_nested_parent_types_struct (st : Struct) (hv : validate (.struct st) = []) (x : Field) (hxm : x ∈ st.fields)
    (pa : ParentAttr) (hpa : pa ∈ x.attrs.parentAttrs) (a : TraitAttrCore) (k : Kind) (hx : (a, k) ∈ attrsByKind st.attrs)
    (hk : k.isFrom = true) (happ : pa.containerTy.isNone = true ∨ isSomeEq pa.containerTy a.ty = true)
    (fs : List ParentChildField) (hfs : pa.childFields = some fs) (f : ParentChildField) (hf : f ∈ fs)
    (i : Member × Option TS) (hi : i ∈ f.subPath) : i.2.isSome = true :=
  nested_parent_types _ _ _ _ (fun m h => not_reported hv (validate_of_parentAttrs st x hxm m h)) pa hpa a k hx hk happ fs hfs f hf i hi

/-- .. and likewise for the payload members of the variants of an enum (since fix 7690954) -/
theorem C16_nested_parent_types_variant (e : Enum) (hv : validate (.enum e) = []) (v : Variant) (hvm : v ∈ e.variants)
    (x : Field) (hxm : x ∈ v.fields)
    (pa : ParentAttr) (hpa : pa ∈ x.attrs.parentAttrs) (a : TraitAttrCore) (k : Kind) (hx : (a, k) ∈ attrsByKind e.attrs)
    (hk : k.isFrom = true) (happ : pa.containerTy.isNone = true ∨ isSomeEq pa.containerTy a.ty = true)
    (fs : List ParentChildField) (hfs : pa.childFields = some fs) (f : ParentChildField) (hf : f ∈ fs)
    (i : Member × Option TS) (hi : i ∈ f.subPath) : i.2.isSome = true :=
  nested_parent_types v.namedFields (variantWrittenAs v (DataType.enum e).attrs) _ _
    (fun m h => not_reported hv (validate_of_payload e v hvm x hxm .parentAttrs m h)) pa hpa a k hx hk happ fs hfs f hf i hi

theorem cls_into {k : Kind} (h : k.cls = .into) : k.isFrom = false ∧ k.isIntoExisting = false := by
  have hf := cls_into_not_from h
  refine ⟨hf, ?_⟩
  cases he : k.isIntoExisting with
  | false => rfl
  | true => simp [Kind.cls, hf, he] at h

theorem parameterized_parent {x : Field} {ty : TypePath} {ps : List ParentChildField}
    (h : (x.attrs.parameterizedParentAttr ty).bind (·.childFields) = some ps) :
    ∃ p ∈ x.attrs.parentAttrs, p.childFields = some ps ∧ (p.containerTy.isNone = true ∨ isSomeEq p.containerTy ty = true) := by
  obtain ⟨p, hp, hps⟩ := Option.bind_eq_some_iff.mp h
  obtain ⟨hmem, happ⟩ := findDedicatedOrDefault_some hp
  exact ⟨p, hmem, hps, happ.symm⟩

theorem parentNeedsType_of {byKind : List (TraitAttrCore × Kind)} {p : ParentAttr} {ps : List ParentChildField}
    (hps : p.childFields = some ps) {a : TraitAttrCore} {k : Kind} (hx : (a, k) ∈ byKind) (hk : k.isFrom = true)
    (happ : p.containerTy.isNone = true ∨ isSomeEq p.containerTy a.ty = true) : parentNeedsType byKind p = true := by
  unfold parentNeedsType
  simp only [hps, Option.isSome_some, Bool.true_and, List.any_eq_true]
  refine ⟨(a, k), hx, ?_⟩
  simp only [hk, Bool.true_and]
  cases hc : p.containerTy with
  | none => rfl
  | some t =>
    rw [hc] at happ
    rcases happ with happ | happ
    · cases happ
    · exact TypePath.beq_iff.mpr (TypePath.beq_iff.mp happ).symm

theorem pathsWF_struct (st : Struct) (h : (DataType.struct st).pathsWF = true) :
    (∀ ga ∈ st.attrs.ghostsAttrs, ∀ g ∈ ga.attr.ghostData, ∀ cp, g.childPath = some cp → cp.WF) ∧
    (∀ f ∈ st.fields, ∀ ca ∈ f.attrs.childAttrs, ca.childPath.WF) := by
  simp only [DataType.pathsWF, ghostsPathsWF, MemberAttrs.pathsWF, DataType.members, DataType.attrs, Bool.and_eq_true,
    List.all_eq_true, List.mem_map, forall_exists_index, and_imp, forall_apply_eq_imp_iff₂] at h
  refine ⟨fun ga hga g hg cp hcp => ?_, fun f hf ca hca => (wf_iff _).mp (h.2 f hf ca hca)⟩
  have := h.1 ga hga g hg
  rw [hcp] at this
  exact (wf_iff _).mp this

theorem child_eq_none {a : MemberAttrs} (h : a.childAttrs = []) (ty : TypePath) : a.child ty = none := by
  simp [MemberAttrs.child, findDedicatedOrDefault, h]

/-- a struct that validation accepts, with well-formed child paths: every entry of its grouped member list is good, for
    every conversion the derive generates -/
theorem goodFC_struct (st : Struct) (hv : validate (.struct st) = []) (hwf : (DataType.struct st).pathsWF = true)
    (ctx : ImplContext) (hin : ctx.input = .struct st) (hby : (ctx.structAttr, ctx.kind) ∈ attrsByKind st.attrs)
    (fc : FieldContainer) (hfc : fc ∈ groupedMembers st ctx) : GoodFC ctx fc := by
  have hattrs : ctx.input.attrs = st.attrs := by rw [hin]; rfl
  obtain ⟨hwfg, hwff⟩ := pathsWF_struct st hwf
  rcases groupedMembers_from st ctx fc hfc with ⟨x, hx, hfd⟩ | ⟨ga, hga, g, hgm, cp, hcp, hfd⟩ | ⟨x, hx, ps, pc, hps, hpc, hfd⟩
  · simp only [GoodFC, hfd]
    intro ca hca
    refine ⟨hwff x hx ca (findDedicatedOrDefault_some hca).1, fun hcls path hp => ?_⟩
    rw [hattrs]
    exact C16_member_child_paths_declared st hv ctx.structAttr ctx.kind hby (cls_into hcls).1 (cls_into hcls).2 x hx ca hca path hp
  · simp only [GoodFC, hfd]
    obtain ⟨x, hxm, rfl⟩ := ghostsAttr_mem hga
    refine ⟨cp, hcp, hwfg x hxm g hgm cp hcp, fun hcls path hp => ?_⟩
    rw [hattrs]
    exact C16_ghost_child_paths_declared st hv ctx.structAttr ctx.kind hby (cls_into hcls).1 (cls_into hcls).2 _ hga g hgm cp hcp path hp
  · simp only [GoodFC, hfd]
    intro hfrom
    obtain ⟨p, hpm, hpps, happ⟩ := parameterized_parent hps
    refine ⟨?_, ?_⟩
    · apply C16_parent_member_has_type (.struct st) hv x (List.mem_map.mpr ⟨x, hx, rfl⟩)
      exact List.any_eq_true.mpr ⟨p, hpm, parentNeedsType_of hpps hby hfrom happ⟩
    · intro i hi
      exact C16_nested_parent_types_struct st hv x hx p hpm ctx.structAttr ctx.kind hby hfrom happ ps hpps pc hpc i hi

/-- the grouped member list of a variant of an enum that validation accepts: payload members, none of them flattened
    (fix db73399), and nested fields of their `#[parent(..)]` lists; no ghost entry (fix 08cc4d9) -/
theorem variant_entries (e : Enum) (hv : validate (.enum e) = []) (v : Variant) (hvm : v ∈ e.variants) (ctx : ImplContext)
    (fc : FieldContainer) (hfc : fc ∈ groupedMembers (variantStructOf v) ctx) :
    (∃ x ∈ v.fields, fc.fieldData = .field x ∧ x.attrs.child ctx.ty = none) ∨
    (∃ x ∈ v.fields, ∃ ps pc, (x.attrs.parameterizedParentAttr ctx.ty).bind (·.childFields) = some ps ∧ pc ∈ ps ∧
      fc.fieldData = .parentChildField x pc) := by
  rcases groupedMembers_from _ ctx fc hfc with ⟨x, hx, hfd⟩ | ⟨ga, hga, g, hgm, cp, hcp, _⟩ | h
  · exact Or.inl ⟨x, hx, hfd, child_eq_none (C16_variant_field_no_child e hv v hvm x hx) _⟩
  · obtain ⟨y, hym, rfl⟩ := ghostsAttr_mem hga
    rw [C16_variant_ghost_no_child_path e hv v hvm y hym g hgm] at hcp
    cases hcp
  · exact Or.inr h

/-- .. and likewise for every variant of an enum that validation accepts: its payload members are not flattened, its
    ghosts are not addressed to nested structs, its `#[parent(..)]` lists are typed -/
theorem goodFC_variant (e : Enum) (hv : validate (.enum e) = []) (v : Variant) (hvm : v ∈ e.variants)
    (ctx : ImplContext) (hin : ctx.input = .struct (variantStructOf v))
    (a : TraitAttrCore) (hby : (a, ctx.kind) ∈ attrsByKind e.attrs) (hty : ctx.ty = a.ty)
    (fc : FieldContainer) (hfc : fc ∈ groupedMembers (variantStructOf v) ctx) : GoodFC ctx fc := by
  rcases variant_entries e hv v hvm ctx fc hfc with ⟨x, hx, hfd, hnone⟩ | ⟨x, hx, ps, pc, hps, hpc, hfd⟩
  · simp only [GoodFC, hfd, hnone]
    exact fun ca hca => by cases hca
  · simp only [GoodFC, hfd]
    intro hfrom
    obtain ⟨p, hpm, hpps, happ⟩ := parameterized_parent hps
    rw [hty] at happ
    refine ⟨?_, ?_⟩
    · apply C16_variant_field_parent_type e hv v hvm x hx
      exact List.any_eq_true.mpr ⟨p, hpm, parentNeedsType_of hpps hby hfrom happ⟩
    · intro i hi
      exact C16_nested_parent_types_variant e hv v hvm x hx p hpm a ctx.kind hby hfrom happ ps hpps pc hpc i hi

/-- the sites at which the expansion of a validated input (with parser-built child paths) can stop: exactly the five
    listed findings -/
def findingSites : List String := lineSites ++ ["expand.rs:render_enum_line:todo"]

theorem postInitOf_v (s : String) (input : DataType) (hv : validate input = []) (ctx : ImplContext) : NP s (postInitOf input ctx) := by
  refine postInitOf_np s input ctx (fun v hm hpar => ?_)
  cases input with
  | struct st =>
    simp only [DataType.members, List.mem_map] at hm
    obtain ⟨f, _, hf⟩ := hm
    cases hf
  | enum e =>
    simp only [DataType.members, List.mem_map, DataTypeMember.variant.injEq, exists_eq_right] at hm
    simp [MemberAttrs.hasParameterlessParentAttr, C16_variant_no_parent e hv v hm] at hpar

/-- **C16 (validated inputs, the whole expansion stage).** For every parsed input that validation accepts and whose child
    paths are as the parser builds them (`pathsWF`: a decidable test the driver evaluates on every input of the
    correspondence run), generating the impls either succeeds, or reports exhausted fuel, or stops at one of the *five
    listed findings*: `unreachable!("6")`, `("8")`, `("18")`, `("19")` of the member lines, and the `todo!()` of
    `render_enum_line`. No other `unwrap()`, `unreachable!`, `todo!()`, `panic!` or index of `expand.rs`, `attr.rs` or
    `ast.rs` can be reached. -/
theorem C16_validated_only_findings (input : DataType) (hv : validate input = []) (hwf : input.pathsWF = true) (s : String)
    (h : dataTypeImpls input = .error (.panic s)) : s ∈ findingSites := by
  refine NP.sites findingSites (fun s hF => ?_) s h
  have hline : ∀ site ∈ lineSites, site ≠ s := fun site h => hF site (List.mem_append_left _ h)
  obtain ⟨hgs, hgv, h17, herr⟩ := validated_np s input hv
  refine dataTypeImpls_np s input (fun ctx _ => postInitOf_v s input hv ctx) (fun ctx hctx _ b st hst => ?_)
    (fun ctx hctx _ b e he v hvm hc => ?_) h17 herr
  · subst hst
    obtain ⟨hin, hby, _⟩ := ctxOf_of_mem ctx hctx
    refine structInitBlock_np_v s hline st _ ⟨by simp [DataType.isEnum, hin], by rw [hin]; exact hgs st rfl⟩ ?_
      (fun fc hfc _ => goodFC_struct st hv hwf _ hin hby fc hfc)
    rw [hin]
    exact fun _ => C16_child_hint_not_unit (.struct st) hv
  · subst he
    have hok := hgv e rfl v hvm
    refine renderEnumLine_np s v _ hc hok (fun _ => ?_) (Or.inl (hF _ (by simp [findingSites])))
    exact structInitBlock_np_v s hline _ _ ⟨rfl, hok⟩ (fun _ ca hca => by cases hca)
      (fun fc hfc _ => goodFC_variant e hv v hvm (variantCtx v _) rfl ctx.structAttr (ctxOf_of_mem ctx hctx).2.1 rfl fc hfc)

/-- the list is the list of the findings kept in `KNOWN_FINDINGS.json`, and each is a row of the regenerated inventory -/
example : findingSites = ["expand.rs:render_struct_line:unreachable(6)", "expand.rs:ApplicableAttr::get_ident:unreachable(8)",
    "expand.rs:ApplicableAttr::get_ident:unreachable(18)", "expand.rs:ApplicableAttr::get_ident:unreachable(19)",
    "expand.rs:render_enum_line:todo"] ∧ findingSites.all (fun x => modelledLabels.contains x) = true :=
  ⟨rfl, by simp only [findingSites, lineSites, modelledLabels_eq, List.cons_append, List.nil_append, List.all_cons, List.all_nil,
    List.contains_cons, beq_self_eq_true, Bool.or_true, Bool.true_or, Bool.and_true]⟩

/-- non-vacuity: `#[into(A)] #[child_parents(p: P)] struct S { #[child(p)] a: i32, b: i32 }` as a parsed input — it is
    accepted by validation, its child path is well-formed, and a flattened member is exactly what the closed sites are about -/
def exFlatStruct : DataType :=
  let ta : TypePath := { path := [Tok.ident "A"], pathStr := "A", generics := none, namelessTuple := false }
  let tp : TypePath := { path := [Tok.ident "P"], pathStr := "P", generics := none, namelessTuple := false }
  .struct {
    attrs := {
      attrs := [{ core := { ty := ta, errTy := none, typeHint := .unspecified }, fallible := false,
                  appl := [true, true, false, false, false, false] }],
      childParentsAttrs := [{ containerTy := none, childParents := [{ ty := tp.path, typeHint := .unspecified, fieldPath := [Member.named "p"], fieldPathStr := "p" }] }] },
    ident := "S", generics := [],
    fields := [
      { attrs := { childAttrs := [{ containerTy := none, childPath := ChildPath.ofMembers [Member.named "p"] }] },
        idx := 0, member := .named "a", memberStr := "a", ty := none },
      { attrs := {}, idx := 1, member := .named "b", memberStr := "b", ty := none }],
    namedFields := true, unit := false }

example : validate exFlatStruct = [] ∧ exFlatStruct.pathsWF = true := by decide +kernel

theorem derive_of_parsed {b : Back} {node : RawInput} {input : DataType} (hp : parseInput b node = some input) :
    derive b node = match validateAll input with
      | [] => (match dataTypeImpls input with | .ok impls => .ok impls.flatten | .error e => ofPErr e)
      | errs => .err ("Cannot expand o2o macro" :: errs) := by
  unfold derive
  unfold parseInput at hp
  cases hb : node.body with
  | union => simp [hb] at hp
  | struct data =>
    simp only [hb] at hp ⊢
    cases hs : Struct.fromSyn b node data <;> simp [hs] at hp
    subst hp
    rfl
  | enum vs =>
    simp only [hb] at hp ⊢
    cases hs : Enum.fromSyn b node vs <;> simp [hs] at hp
    subst hp
    rfl

theorem derive_panic_inv {b : Back} {node : RawInput} {input : DataType} (hp : parseInput b node = some input)
    {s : String} (h : derive b node = .panic s) : validateAll input = [] ∧ dataTypeImpls input = .error (.panic s) := by
  rw [derive_of_parsed hp] at h
  split at h
  next hva =>
    refine ⟨hva, ?_⟩
    split at h
    · cases h
    next e he =>
      cases e <;> cases h
      exact he
  · cases h

/-- **C16 (the derive as a whole, after parsing).** When the attribute parser accepts the input — yielding `input`, with
    child paths as it builds them — whatever `derive` then does (report diagnostics, or expand), it can panic only at one
    of the five listed findings. -/
theorem C16_derive_only_findings (b : Back) (node : RawInput) (input : DataType) (hp : parseInput b node = some input)
    (hwf : input.pathsWF = true) (s : String) (h : derive b node = .panic s) : s ∈ findingSites := by
  obtain ⟨hva, hd⟩ := derive_panic_inv hp h
  exact C16_validated_only_findings input (validate_of_validateAll_nil _ hva) hwf s hd

/-- **C16, the derive as a whole.** Whenever the attribute parser accepts the input, whatever `derive` then does — report
    diagnostics or generate the impls — it can panic only at one of the five listed findings. No hypothesis is left but
    the acceptance by the parser (a parse-stage panic of the model can only be the dispatchers' "no arm", excluded by
    `C16_dispatch_total`). -/
theorem C16_derive_panics_only_at_findings (b : Back) (node : RawInput) (input : DataType) (hp : parseInput b node = some input)
    (s : String) (h : derive b node = .panic s) : s ∈ findingSites :=
  C16_derive_only_findings b node input hp (parseInput_pathsWF b node input hp) s h

end O2o
