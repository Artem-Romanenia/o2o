/-
C15 — documented misuse is reported as a compile error, completely, in any context.
Completeness is proved rule by rule: if the input breaks the rule (the offending instruction sits *anywhere*, the
surrounding instructions are arbitrary), the rule's message is among the diagnostics `validate` returns. The
key structural fact is that the validator only ever adds to its error collection: every pass is `Ext`, so what one
stage of `validate` reports for every incoming collection is in the final one (`validate_of_*`).
-/
import O2oModel.Lemmas.Errors
namespace O2o

theorem ext_validateErrorInstrs (isEnum : Bool) (instrs : List ErrInstr) : Ext (validateErrorInstrs isEnum instrs) :=
  ext_foldl fun e => by
    cases e
    · exact ext_ite _ (ext_insert _) (ext_insert _)
    · exact ext_ite _ (ext_insert _) (ext_insert _)
    · exact ext_insert _

theorem ext_validateMemberErrorInstrs (isEnum : Bool) (instrs : List ErrInstr) : Ext (validateMemberErrorInstrs isEnum instrs) :=
  ext_foldl fun e => by
    cases e
    · exact ext_insert _
    · exact ext_ite _ (ext_insert _) (ext_insert _)
    · exact ext_insert _

theorem ext_validateStructAttrs (attrs : List TraitAttrCore) (f : Bool) : Ext (validateStructAttrs attrs f) :=
  ext_foldl_snd attrs _ (fun _ _ _ _ hm => mem_insertIf (mem_insertIf (mem_insertIf hm))) []

theorem ext_dedicatedLoop (tps typePaths : List TypePath) (dup : Option (TypePath → String)) : Ext (dedicatedLoop tps typePaths dup) :=
  ext_foldl_snd tps _ (fun _ _ _ _ hm => by
    cases dup
    · exact mem_insertIf hm
    · exact mem_insertIf (mem_insertIf hm)) []

theorem ext_validateGhostAttrs (k : Kind) (ga : List GhostsAttr) (tps : List TypePath) : Ext (validateGhostAttrs k ga tps) := by
  intro es m hm
  unfold validateGhostAttrs
  exact ext_dedicatedLoop _ _ _ _ _ (mem_insertIf hm)

theorem ext_validateWhereAttrs (was : List WhereAttr) (tps : List TypePath) : Ext (validateWhereAttrs was tps) := by
  intro es m hm
  unfold validateWhereAttrs
  exact ext_dedicatedLoop _ _ _ _ _ (mem_insertIf hm)

theorem ext_validateDedicatedMemberAttrs (ctys : List (Option TypePath)) (n : Option String) (tps : List TypePath) :
    Ext (validateDedicatedMemberAttrs ctys n tps) := by
  intro es m hm
  unfold validateDedicatedMemberAttrs
  apply ext_dedicatedLoop
  cases n
  · exact hm
  · exact mem_insertIf hm

theorem ext_barkAtMemberAttr (n : Nat) (name : String) : Ext (barkAtMemberAttr n name) := ext_iteP _ (ext_insert _) ext_id

theorem ext_validateChildParentsAttrs (cas : List ChildParentsAttr) (tps : List TypePath) : Ext (validateChildParentsAttrs cas tps) := by
  intro es m hm
  unfold validateChildParentsAttrs
  refine ext_foldl_snd cas _ (fun ca s es m hm => ?_) [] _ m (mem_insertIf hm)
  refine ext_foldl_snd ca.childParents _ (fun _ _ _ _ hm => mem_insertIf (mem_insertIf hm)) [] _ m ?_
  cases ca.containerTy
  · exact hm
  · exact mem_insertIf (mem_insertIf hm)

theorem ext_nestedNamePass (named : Bool) (pas : List ParentAttr) (x : TraitAttrCore × Kind × TypeHint) :
    Ext (fun es => nestedNamePass named pas es x) := by
  intro es m hm
  simp only [nestedNamePass]
  split
  · exact ext_foldl (fun _ => ext_insert _) _ m hm
  · exact hm

theorem ext_validateParentAttrs (named : Bool) (wa : List (TraitAttrCore × Kind × TypeHint)) (pas : List ParentAttr) (byKind : List (TraitAttrCore × Kind)) :
    Ext (validateParentAttrs named wa pas byKind) := by
  intro es m hm
  unfold validateParentAttrs
  refine ext_foldl (fun pa es m hm => ?_) _ m (ext_foldl (ext_nestedNamePass named pas) _ m hm)
  refine ext_foldl (fun x es m hm => ?_) _ m (ext_foldl (fun x es m hm => ?_) _ m hm)
  · cases pa.childFields
    · exact hm
    · exact ext_foldl (fun _ => ext_foldl fun _ => ext_iteP _ (ext_insert _) ext_id) _ m hm
  · cases pa.childFields
    · exact hm
    · exact ext_foldl (fun _ => ext_iteP _ (ext_insert _) ext_id) _ m hm

/-- `validate_parent_attrs` runs in two stages: the name rule over the (instruction, kind, shape) triples, then the loop
    over the `#[parent]` instructions, which does not look at the triples -/
theorem validateParentAttrs_stages (named : Bool) (wa : List (TraitAttrCore × Kind × TypeHint)) (pas : List ParentAttr)
    (byKind : List (TraitAttrCore × Kind)) (es : Errors) :
    validateParentAttrs named wa pas byKind es =
      validateParentAttrs named [] pas byKind
        ((wa.filter fun x => !x.2.1.isFrom && x.1.quickReturn.isNone).foldl (nestedNamePass named pas) es) := rfl

theorem ext_checkChildPathErrors (cp : ChildPath) (sa : DataTypeAttrs) (tp : TypePath) : Ext (checkChildPathErrors cp sa tp) := by
  unfold checkChildPathErrors
  refine ext_foldl fun path es m hm => ?_
  cases sa.childParentsAttr tp
  · exact mem_insert_of_mem hm
  · exact mem_insertIf hm

theorem ext_checkChildErrors (ca : ChildAttr) (sa : DataTypeAttrs) (tp : TypePath) : Ext (checkChildErrors ca sa tp) :=
  ext_checkChildPathErrors ca.childPath sa tp

theorem ext_ghostChildPass (dta : DataTypeAttrs) (x : TraitAttrCore × Kind) : Ext (fun es => ghostChildPass dta es x) := by
  unfold ghostChildPass
  refine ext_ite _ (fun es m hm => ?_) ext_id
  cases dta.ghostsAttr x.1.ty x.2
  · exact hm
  · exact ext_foldl (fun cp => ext_checkChildPathErrors cp dta x.1.ty) _ m hm

theorem ext_ghostPatternPass (msg : String) (g : GhostData) : Ext (ghostPatternPass msg g) := by
  unfold ghostPatternPass
  cases g.ghostIdent
  · exact ext_id
  · exact ext_insert _

theorem ext_variantGhostChildPass (g : GhostData) : Ext (variantGhostChildPass g) := ext_ite _ (ext_insert _) ext_id

theorem ext_memberNameCheck (f : Field) (ty : TypePath) (k : Kind) (fl : Bool) (msg : String) : Ext (memberNameCheck f ty k fl msg) := by
  unfold memberNameCheck
  refine ext_ite _ ext_id fun es m hm => ?_
  cases f.attrs.applicableFieldAttr k fl ty
  · exact mem_insert_of_mem hm
  · exact ext_ite _ (ext_ite _ (ext_insert _) ext_id) (ext_ite _ (ext_insert _) ext_id) es m hm

theorem ext_ghostDefaultPass (fromTps : List TypePath) (field : Field) : Ext (ghostDefaultPass fromTps field) := by
  intro es m hm
  unfold ghostDefaultPass
  -- the `repeat` check comes after the loop over the member's `#[ghost]` instructions
  refine (?_ : Ext fun es => match field.attrs.repeat_ with | some r => if r.permeate then es.insert _ else es | none => es) _ m ?_
  · cases field.attrs.repeat_
    · exact ext_id
    · exact ext_ite _ (ext_insert _) ext_id
  · refine ext_foldl (fun ga es m hm => ?_) _ m hm
    split
    · exact hm
    · cases ga.attr.containerTy
      · exact ext_foldl (fun _ => ext_insert _) _ m hm
      · exact mem_insertIf hm

theorem ext_childPass (sa : DataTypeAttrs) (tps into : List TypePath) (ca : ChildAttr) : Ext (childPass sa tps into ca) := by
  intro es m hm
  unfold childPass
  cases ca.containerTy
  · exact ext_foldl (fun tp => ext_checkChildErrors ca sa tp) _ m hm
  · exact ext_ite _ (ext_checkChildErrors _ _ _) ext_id _ m (mem_insertIf hm)

theorem ext_namePass (input : Struct) (dta : TraitAttrCore) (k : Kind) (fl : Bool) : Ext (namePass input dta k fl) := by
  unfold namePass
  exact ext_ite _ (ext_foldl fun field => ext_ite _ ext_id (ext_memberNameCheck _ _ _ _ _)) ext_id

theorem ext_childBareParentPass (input : Struct) (x : TraitAttrCore × Kind) : Ext (fun es => childBareParentPass input es x) := by
  unfold childBareParentPass
  exact ext_ite _ (fun es m hm => ext_foldl (fun _ => ext_insert _) _ m (ext_foldl (fun _ => ext_insert _) _ m hm)) ext_id

theorem ext_validateFields (input : Struct) (byKind : List (TraitAttrCore × Kind)) (tps : List TypePath) :
    Ext (validateFields input byKind tps) := by
  intro es m hm
  refine ext_ite _ (ext_foldl fun _ => ext_namePass _ _ _ _) ext_id _ m ?_
  apply ext_foldl fun _ => ext_childBareParentPass _ _
  apply ext_foldl fun _ => ext_ghostChildPass _ _
  apply ext_foldl fun _ => ext_childPass _ _ _ _
  exact ext_foldl (fun _ => ext_ghostDefaultPass _ _) _ m hm

theorem ext_variantNamePass (v : Variant) (a : TraitAttr) (k : Kind) : Ext (variantNamePass v a k) := by
  unfold variantNamePass
  exact ext_ite _ (ext_foldl fun field => ext_memberNameCheck _ _ _ _ _) ext_id

theorem ext_validateVariantFields (v : Variant) (dta : DataTypeAttrs) : Ext (validateVariantFields v dta) := by
  unfold validateVariantFields
  exact ext_ite _ (ext_foldl fun (x : TraitAttr × Kind) => ext_variantNamePass v x.1 x.2) ext_id

theorem ext_parentTypePass (f : Field) (byKind : List (TraitAttrCore × Kind)) : Ext (parentTypePass f byKind) :=
  ext_ite _ (ext_insert _) ext_id

theorem ext_enumGhostIdentPass (g : GhostData) : Ext (enumGhostIdentPass g) := by
  intro es m hm
  unfold enumGhostIdentPass
  split
  · exact mem_insert_of_mem hm
  · exact hm

theorem ext_updatePass (input : DataType) (x : TraitAttrCore × Kind) : Ext (fun es => updatePass input es x) := by
  unfold updatePass
  exact ext_ite _ (ext_ite _ (ext_insert _) (ext_ite _ (ext_insert _) ext_id)) ext_id

/-- the passes of `validate`'s member loop over a payload member of a variant, by name, in the order they run -/
inductive PayloadStage
  | child | parentAttrs | parentType | attrs | ghostAttrs | errorInstrs

def PayloadStage.run (input : DataType) (isEnum : Bool) (tps : List TypePath) (byKind : List (TraitAttrCore × Kind)) (v : Variant) (f : Field) :
    PayloadStage → Errors → Errors
  | .child => barkAtMemberAttr f.attrs.childAttrs.length "child"
  | .parentAttrs => validateParentAttrs v.namedFields (variantWrittenAs v input.attrs) f.attrs.parentAttrs byKind
  | .parentType => parentTypePass f byKind
  | .attrs => validateDedicatedMemberAttrs (f.attrs.attrs.map (·.attr.containerTy)) none tps
  | .ghostAttrs => validateDedicatedMemberAttrs (f.attrs.ghostAttrs.map (·.attr.containerTy)) none tps
  | .errorInstrs => validateMemberErrorInstrs isEnum f.attrs.errorInstrs

def payloadStages : List PayloadStage := [.child, .parentAttrs, .parentType, .attrs, .ghostAttrs, .errorInstrs]

theorem ext_payloadStage (input : DataType) (isEnum : Bool) (tps : List TypePath) (byKind : List (TraitAttrCore × Kind)) (v : Variant)
    (f : Field) (s : PayloadStage) : Ext (fun es => s.run input isEnum tps byKind v f es) := by
  -- the `match` of `run` is reduced first: left to `exact`, the unifier unfolds the pass on the other side instead and fails
  cases s <;> simp only [PayloadStage.run]
  · exact ext_barkAtMemberAttr _ _
  · exact ext_validateParentAttrs _ _ _ _
  · exact ext_parentTypePass _ _
  · exact ext_validateDedicatedMemberAttrs _ _ _
  · exact ext_validateDedicatedMemberAttrs _ _ _
  · exact ext_validateMemberErrorInstrs _ _

theorem ext_validateMember (input : DataType) (isEnum : Bool) (tps : List TypePath) (byKind : List (TraitAttrCore × Kind))
    (member : DataTypeMember) : Ext (fun es => validateMember input isEnum tps byKind es member) := by
  intro es m hm
  -- the passes of the member loop, last one first: each `apply` peels the outermost pass off the goal
  cases member with
  | field f =>
    apply ext_validateMemberErrorInstrs
    apply ext_parentTypePass
    apply ext_validateParentAttrs
    apply ext_validateDedicatedMemberAttrs
    iterate 6 apply ext_barkAtMemberAttr
    apply ext_validateDedicatedMemberAttrs
    apply ext_validateDedicatedMemberAttrs
    exact hm
  | variant v =>
    apply ext_validateMemberErrorInstrs
    apply ext_foldl fun f => ext_foldl (xs := payloadStages) (ext_payloadStage input isEnum tps byKind v f)
    iterate 3 apply ext_validateDedicatedMemberAttrs
    apply ext_foldl fun g => ext_comp (ext_ghostPatternPass _ g) (ext_variantGhostChildPass g)
    apply ext_barkAtMemberAttr
    apply ext_validateDedicatedMemberAttrs
    apply ext_validateDedicatedMemberAttrs
    exact hm

theorem ext_validateEnd (input : DataType) (byKind : List (TraitAttrCore × Kind)) (tps : List TypePath) :
    Ext (validateEnd input byKind tps) := by
  cases input with
  | struct s => exact ext_comp (ext_foldl (fun g => ext_ghostPatternPass _ g)) (ext_validateFields s byKind tps)
  | enum e => exact ext_comp (ext_foldl (fun g => ext_enumGhostIdentPass g)) (ext_foldl (fun v => ext_validateVariantFields v _))

/-- the passes of `validate`, by name, in the order they run (`stages`) -/
inductive Stage
  | errorInstrs | structAttrs (fallible : Bool) | ghostAttrs | childParents | whereAttrs | update | members | end_

def Stage.run (input : DataType) : Stage → Errors → Errors
  | .errorInstrs => validateErrorInstrs input.isEnum input.attrs.errorInstrs
  | .structAttrs f => fun es => validateKinds.foldl (fun es k => validateStructAttrs (input.attrs.iterForKindCore k f) f es) es
  | .ghostAttrs => fun es => validateKinds.foldl (fun es k => validateGhostAttrs k input.attrs.ghostsAttrs (input.attrs.attrs.map (·.core.ty)) es) es
  | .childParents => validateChildParentsAttrs input.attrs.childParentsAttrs (input.attrs.attrs.map (·.core.ty))
  | .whereAttrs => validateWhereAttrs input.attrs.whereAttrs (input.attrs.attrs.map (·.core.ty))
  | .update => fun es => (attrsByKind input.attrs).foldl (updatePass input) es
  | .members => fun es => input.members.foldl (validateMember input input.isEnum (input.attrs.attrs.map (·.core.ty)) (attrsByKind input.attrs)) es
  | .end_ => validateEnd input (attrsByKind input.attrs) (input.attrs.attrs.map (·.core.ty))

def stages : List Stage := [.errorInstrs, .structAttrs false, .structAttrs true, .ghostAttrs, .childParents, .whereAttrs, .update, .members, .end_]

/-- `validate` runs its stages in order: what one of them reports, whatever it is handed, is in the result (`validate_of_stage`) -/
theorem validate_eq_stages (input : DataType) :
    validate input = stages.foldl (fun es s => s.run input es)
      (if input.attrs.attrs.isEmpty then ["At least one trait instruction is expected."] else []) := rfl

theorem ext_stage (input : DataType) (s : Stage) : Ext (fun es => s.run input es) := by
  cases s
  · exact ext_validateErrorInstrs _ _
  · exact ext_foldl fun _ => ext_validateStructAttrs _ _
  · exact ext_foldl fun _ => ext_validateGhostAttrs _ _ _
  · exact ext_validateChildParentsAttrs _ _
  · exact ext_validateWhereAttrs _ _
  · exact ext_foldl fun x => ext_updatePass input x
  · exact ext_foldl fun m => ext_validateMember _ _ _ _ m
  · exact ext_validateEnd _ _ _

theorem validate_of_stage (input : DataType) (s : Stage) (m : String) (h : ∀ es, m ∈ s.run input es) : m ∈ validate input := by
  have hs : s ∈ stages := by
    cases s with
    | structAttrs f => cases f <;> simp [stages]
    | _ => simp [stages]
  rw [validate_eq_stages]
  exact mem_foldl_of_step hs (fun s es hm => ext_stage input s es m hm) h

section
variable (input : DataType) (m : String)

theorem validate_of_errorInstrs
    (h : m ∈ validateErrorInstrs input.isEnum input.attrs.errorInstrs
      (if input.attrs.attrs.isEmpty then ["At least one trait instruction is expected."] else [])) : m ∈ validate input := by
  rw [validate_eq_stages, stages, List.foldl_cons]
  exact mem_foldl_of_mem (fun s es hm => ext_stage input s es m hm) h

theorem validate_of_structAttrs (k : Kind) (hk : k ∈ validateKinds) (f : Bool)
    (h : ∀ es, m ∈ validateStructAttrs (input.attrs.iterForKindCore k f) f es) : m ∈ validate input :=
  validate_of_stage input (.structAttrs f) m fun _ =>
    mem_foldl_of_step (step := fun es k => validateStructAttrs (input.attrs.iterForKindCore k f) f es) hk
      (fun _ es hm => ext_validateStructAttrs _ f es m hm) h

theorem validate_of_childParents
    (h : ∀ es, m ∈ validateChildParentsAttrs input.attrs.childParentsAttrs (input.attrs.attrs.map (·.core.ty)) es) : m ∈ validate input :=
  validate_of_stage input .childParents m h

theorem validate_of_where
    (h : ∀ es, m ∈ validateWhereAttrs input.attrs.whereAttrs (input.attrs.attrs.map (·.core.ty)) es) : m ∈ validate input :=
  validate_of_stage input .whereAttrs m h

theorem validate_of_update (x : TraitAttrCore × Kind) (hx : x ∈ attrsByKind input.attrs) (h : ∀ es, m ∈ updatePass input es x) :
    m ∈ validate input :=
  validate_of_stage input .update m fun _ => mem_foldl_of_step hx (fun y es hm => ext_updatePass input y es m hm) h

theorem validate_of_member (member : DataTypeMember) (hmem : member ∈ input.members)
    (h : ∀ es, m ∈ validateMember input input.isEnum (input.attrs.attrs.map (·.core.ty)) (attrsByKind input.attrs) es member) :
    m ∈ validate input :=
  validate_of_stage input .members m fun _ => mem_foldl_of_step hmem (fun y es hm => ext_validateMember _ _ _ _ y es m hm) h

theorem validate_of_end
    (h : ∀ es, m ∈ validateEnd input (attrsByKind input.attrs) (input.attrs.attrs.map (·.core.ty)) es) : m ∈ validate input :=
  validate_of_stage input .end_ m h
end

theorem not_reported {input : DataType} (hv : validate input = []) {m : String} (h : m ∈ validate input) : False := by
  rw [hv] at h
  cases h

theorem validate_of_parentAttrs (st : Struct) (f : Field) (hf : f ∈ st.fields) (m : String)
    (h : ∀ es, m ∈ validateParentAttrs st.namedFields ((attrsByKind st.attrs).map fun x => (x.1, x.2, x.1.typeHint))
      f.attrs.parentAttrs (attrsByKind st.attrs) es) : m ∈ validate (.struct st) :=
  validate_of_member _ m (.field f) (List.mem_map.mpr ⟨f, hf, rfl⟩) fun _ =>
    ext_validateMemberErrorInstrs _ _ _ _ (ext_parentTypePass _ _ _ _ (h _))

theorem validate_of_variantGhost (e : Enum) (v : Variant) (hvm : v ∈ e.variants) (g : GhostData)
    (hg : g ∈ v.attrs.ghostsAttrs.flatMap (·.attr.ghostData)) (m : String)
    (h : ∀ es, m ∈ variantGhostChildPass g
      (ghostPatternPass "Variant-level #[ghosts(...)] should name a member of the other type's variant, not a pattern." g es)) :
    m ∈ validate (.enum e) := by
  refine validate_of_member _ m (.variant v) (List.mem_map.mpr ⟨v, hvm, rfl⟩) fun es => ?_
  apply ext_validateMemberErrorInstrs
  apply ext_foldl fun f => ext_foldl (xs := payloadStages) (ext_payloadStage _ _ _ _ v f)
  iterate 3 apply ext_validateDedicatedMemberAttrs
  exact mem_foldl_of_step hg (fun y es hm => ext_variantGhostChildPass y _ _ (ext_ghostPatternPass _ y es _ hm)) h

theorem validate_of_variantParent (e : Enum) (v : Variant) (hvm : v ∈ e.variants) (m : String)
    (h : ∀ es, m ∈ barkAtMemberAttr v.attrs.parentAttrs.length "parent" es) : m ∈ validate (.enum e) := by
  refine validate_of_member _ m (.variant v) (List.mem_map.mpr ⟨v, hvm, rfl⟩) fun es => ?_
  apply ext_validateMemberErrorInstrs
  apply ext_foldl fun f => ext_foldl (xs := payloadStages) (ext_payloadStage _ _ _ _ v f)
  iterate 3 apply ext_validateDedicatedMemberAttrs
  apply ext_foldl fun g => ext_comp (ext_ghostPatternPass _ g) (ext_variantGhostChildPass g)
  exact h _

theorem validate_of_payload (e : Enum) (v : Variant) (hvm : v ∈ e.variants) (f : Field) (hf : f ∈ v.fields) (s : PayloadStage) (m : String)
    (h : ∀ es, m ∈ s.run (.enum e) true ((DataType.enum e).attrs.attrs.map (·.core.ty)) (attrsByKind e.attrs) v f es) :
    m ∈ validate (.enum e) := by
  have hs : s ∈ payloadStages := by cases s <;> simp [payloadStages]
  have hp := fun es => mem_foldl_of_step (es := es) hs (fun s es hm => ext_payloadStage _ _ _ _ v f s es m hm) h
  exact validate_of_member _ m (.variant v) (List.mem_map.mpr ⟨v, hvm, rfl⟩) fun _ =>
    ext_validateMemberErrorInstrs _ _ _ _ (mem_foldl_of_step hf
      (fun y es hm => ext_foldl (xs := payloadStages) (ext_payloadStage _ _ _ _ v y) es m hm) hp)

theorem validate_of_childPass (st : Struct) (ca : ChildAttr) (hca : ca ∈ st.fields.flatMap (·.attrs.childAttrs)) (m : String)
    (h : ∀ es, m ∈ childPass st.attrs ((DataType.struct st).attrs.attrs.map (·.core.ty))
      (uniqueInOrder (((attrsByKind st.attrs).filter fun (_, k) => !k.isFrom && !k.isIntoExisting).map (·.1.ty))) ca es) :
    m ∈ validate (.struct st) := by
  refine validate_of_end _ m fun es => ?_
  refine ext_ite _ (ext_foldl fun _ => ext_namePass _ _ _ _) ext_id _ m ?_
  apply ext_foldl fun _ => ext_childBareParentPass _ _
  apply ext_foldl fun _ => ext_ghostChildPass _ _
  exact mem_foldl_of_step hca (fun y es hm => ext_childPass _ _ _ y es m hm) h

theorem validate_of_ghostChildPass (st : Struct) (x : TraitAttrCore × Kind) (hx : x ∈ attrsByKind st.attrs) (m : String)
    (h : ∀ es, m ∈ ghostChildPass st.attrs es x) : m ∈ validate (.struct st) := by
  refine validate_of_end _ m fun es => ?_
  refine ext_ite _ (ext_foldl fun _ => ext_namePass _ _ _ _) ext_id _ m ?_
  apply ext_foldl fun _ => ext_childBareParentPass _ _
  exact mem_foldl_of_step hx (fun y es hm => ext_ghostChildPass _ y es m hm) h

/-- the name rule of a tuple struct under one trait instruction: the last loop of `validate_fields` -/
theorem validate_of_namePass (st : Struct) (hn : st.namedFields = false) (x : TraitAttr × Kind) (hx : x ∈ traitAttrsByKind st.attrs)
    (m : String) (h : ∀ es, m ∈ namePass st x.1.core x.2 x.1.fallible es) : m ∈ validate (.struct st) := by
  refine validate_of_end _ m fun es => ?_
  unfold validateEnd validateFields
  simp only [hn, Bool.not_false, if_true]
  exact mem_foldl_of_step hx (fun y es hm => ext_namePass st y.1.core y.2 y.1.fallible es m hm) h

/-- everything that happens in `validate` after the two struct-attribute stages only adds diagnostics -/
theorem validate_tail_ext (input : DataType) (es : Errors) (m : String) (hm : m ∈ es) :
    m ∈ (let attrs := input.attrs
         let isEnum := input.isEnum
         let typePaths := attrs.attrs.map (·.core.ty)
         let es := validateKinds.foldl (fun es k => validateGhostAttrs k attrs.ghostsAttrs typePaths es) es
         let es := validateChildParentsAttrs attrs.childParentsAttrs typePaths es
         let es := validateWhereAttrs attrs.whereAttrs typePaths es
         let byKind := attrsByKind attrs
         let es := byKind.foldl (updatePass input) es
         let es := input.members.foldl (validateMember input isEnum typePaths byKind) es
         validateEnd input byKind typePaths es) :=
  -- `es` is given: with the start of the fold unknown the unifier cannot run the stages (3.4M heartbeats against 0.1M)
  mem_foldl_of_mem (xs := stages.drop 3) (es := es) (fun s es hm => ext_stage input s es m hm) hm

/-- R1 — "no trait instruction": reported whatever else the input contains -/
theorem C15_complete_R1_stage (input : DataType) (h : input.attrs.attrs = []) :
    "At least one trait instruction is expected." ∈
      validateErrorInstrs input.isEnum input.attrs.errorInstrs
        (if input.attrs.attrs.isEmpty then ["At least one trait instruction is expected."] else []) :=
  ext_validateErrorInstrs _ _ _ _ (by simp [h])

/-- R3a — a fallible instruction without an error type is reported by the pass for its kind, wherever it stands in
    the instruction list and whatever precedes it in the error collection -/
theorem C15_complete_R3a (pre post : List TraitAttrCore) (a : TraitAttrCore) (es : Errors) (h : a.errTy = none) :
    "Error type should be specified for fallible instruction." ∈ validateStructAttrs (pre ++ a :: post) true es := by
  refine foldl_snd_mem_of_step pre post a _ [] es _ (fun _ _ _ _ hm => ?_) fun _ _ => ?_
  · dsimp only
    exact mem_insertIf (mem_insertIf (mem_insertIf hm))
  · dsimp only
    exact mem_insertIf (mem_insertIf_self (by simp [h]))

/-- R3b — an infallible instruction with an error type -/
theorem C15_complete_R3b (pre post : List TraitAttrCore) (a : TraitAttrCore) (es : Errors) (t : TypePath) (h : a.errTy = some t) :
    "Error type should not be specified for infallible instruction." ∈ validateStructAttrs (pre ++ a :: post) false es := by
  refine foldl_snd_mem_of_step pre post a _ [] es _ (fun _ _ _ _ hm => ?_) fun _ _ => ?_
  · dsimp only
    exact mem_insertIf (mem_insertIf (mem_insertIf hm))
  · dsimp only
    exact mem_insertIf_self (by simp [h])

/-- R2 — the same counterpart twice for one conversion kind and fallibility: reported at the second occurrence,
    whatever stands before, between or after the two -/
theorem C15_complete_R2 (pre mid post : List TraitAttrCore) (a a' : TraitAttrCore) (es : Errors) (f : Bool) (h : (a'.ty == a.ty) = true) :
    "Ident here must be unique." ∈ validateStructAttrs (pre ++ a :: (mid ++ a' :: post)) f es := by
  unfold validateStructAttrs
  rw [List.foldl_append, List.foldl_cons]
  -- once `a` is passed the seen list holds a counterpart equal to that of `a'`, and keeps it
  refine foldl_snd_mem_of_inv (fun seen => seen.contains a'.ty = true) mid post a' _ _
    (fun _ _ _ _ hm => mem_insertIf (mem_insertIf (mem_insertIf hm))) (fun x s _ hs => ?_)
    (fun s _ hs => mem_insertIf (mem_insertIf (mem_insertIf_self hs))) _ _ ?_
  · simp [List.contains_cons, hs]
  · simp [List.contains_cons, h]

/-- R6 — misplaced / misnamed / unknown-in-`o2o(..)` type-level instructions: every recorded error instruction yields
    its message, wherever it sits among the others -/
theorem C15_complete_R6_unrecognized (isEnum : Bool) (pre post : List ErrInstr) (instr : String) (es : Errors) :
    ("Struct instruction '" ++ instr ++ "' is not supported.") ∈
      validateErrorInstrs isEnum (pre ++ .unrecognizedWithError instr :: post) es := by
  unfold validateErrorInstrs
  rw [List.foldl_append, List.foldl_cons]
  exact ext_validateErrorInstrs isEnum post _ _ mem_insert_self

theorem dedicatedLoop_reports_unknown (pre post : List TypePath) (tp : TypePath) (typePaths : List TypePath)
    (dup : Option (TypePath → String)) (es : Errors) (h : typePaths.contains tp = false) :
    noMatch tp ∈ dedicatedLoop (pre ++ tp :: post) typePaths dup es := by
  have hc : (!typePaths.contains tp) = true := by simp [h]
  cases dup
  · exact foldl_snd_mem_of_step pre post tp _ [] es _ (fun _ _ _ _ hm => mem_insertIf hm) fun _ _ => mem_insertIf_self hc
  · exact foldl_snd_mem_of_step pre post tp _ [] es _ (fun _ _ _ _ hm => mem_insertIf (mem_insertIf hm))
      fun _ _ => mem_insertIf (mem_insertIf_self hc)

/-- C15-2 (all reported): whatever was reported before a pass is still reported after it — so two broken rules
    yield both messages in the same expansion. Instances for the passes of `validate`. -/
theorem C15_all_reported_passes :
    (∀ isEnum instrs, Ext (validateErrorInstrs isEnum instrs)) ∧ (∀ attrs f, Ext (validateStructAttrs attrs f)) ∧
    (∀ k ga tps, Ext (validateGhostAttrs k ga tps)) ∧ (∀ was tps, Ext (validateWhereAttrs was tps)) ∧
    (∀ ctys n tps, Ext (validateDedicatedMemberAttrs ctys n tps)) ∧ (∀ isEnum instrs, Ext (validateMemberErrorInstrs isEnum instrs)) ∧
    (∀ n name, Ext (barkAtMemberAttr n name)) :=
  ⟨ext_validateErrorInstrs, ext_validateStructAttrs, ext_validateGhostAttrs, ext_validateWhereAttrs,
   ext_validateDedicatedMemberAttrs, ext_validateMemberErrorInstrs, ext_barkAtMemberAttr⟩

/-- accepted ⇔ no diagnostic: `derive` turns any non-empty collection into an error -/
theorem C15_rejected_iff (input : DataType) : (validate input ≠ []) ↔ ∃ m, m ∈ validate input :=
  ⟨List.exists_mem_of_ne_nil _, fun ⟨_, hm⟩ => List.ne_nil_of_mem hm⟩

/-- C15 (R3a, end to end): a fallible trait instruction without an error type — for any kind it applies to, anywhere
    among the trait instructions, whatever else the input contains — makes `validate` report it -/
theorem C15_complete_R3a_validate (input : DataType) (k : Kind) (a : TraitAttrCore)
    (hk : k ∈ validateKinds) (ha : a ∈ input.attrs.iterForKindCore k true) (herr : a.errTy = none) :
    "Error type should be specified for fallible instruction." ∈ validate input := by
  obtain ⟨pre, post, hsplit⟩ := List.append_of_mem ha
  exact validate_of_structAttrs input _ k hk true fun es => hsplit ▸ C15_complete_R3a pre post a es herr

/-- C15 (R3b, end to end): an infallible trait instruction that carries an error type is reported by `validate` -/
theorem C15_complete_R3b_validate (input : DataType) (k : Kind) (a : TraitAttrCore) (t : TypePath)
    (hk : k ∈ validateKinds) (ha : a ∈ input.attrs.iterForKindCore k false) (herr : a.errTy = some t) :
    "Error type should not be specified for infallible instruction." ∈ validate input := by
  obtain ⟨pre, post, hsplit⟩ := List.append_of_mem ha
  exact validate_of_structAttrs input _ k hk false fun es => hsplit ▸ C15_complete_R3b pre post a es t herr

/-- C15 (R2, end to end): two trait instructions of one kind and fallibility for the same counterpart — anywhere in the
    list, whatever stands between them — are reported by `validate` -/
theorem C15_complete_R2_validate (input : DataType) (k : Kind) (f : Bool) (pre mid post : List TraitAttrCore) (a a' : TraitAttrCore)
    (hk : k ∈ validateKinds) (hl : input.attrs.iterForKindCore k f = pre ++ a :: (mid ++ a' :: post)) (h : (a'.ty == a.ty) = true) :
    "Ident here must be unique." ∈ validate input :=
  validate_of_structAttrs input _ k hk f fun es => hl ▸ C15_complete_R2 pre mid post a a' es f h

/-- C15 (R1, end to end): an input without any trait instruction is reported by `validate` -/
theorem C15_complete_R1_validate (input : DataType) (h : input.attrs.attrs = []) :
    "At least one trait instruction is expected." ∈ validate input :=
  validate_of_errorInstrs input _ (C15_complete_R1_stage input h)

/-- C15 (R6, end to end): an unknown name inside a type-level `#[o2o(..)]` is reported by `validate` -/
theorem C15_complete_R6_validate (input : DataType) (pre post : List ErrInstr) (instr : String)
    (h : input.attrs.errorInstrs = pre ++ .unrecognizedWithError instr :: post) :
    ("Struct instruction '" ++ instr ++ "' is not supported.") ∈ validate input :=
  validate_of_errorInstrs input _ (h ▸ C15_complete_R6_unrecognized _ pre post instr _)

/-- C15 (R4, end to end, `where_clause`): a `#[where_clause(Type| ..)]` dedicated to a type that no trait instruction
    names is reported by `validate`, wherever it stands among the where-clauses -/
theorem C15_complete_R4_where_validate (input : DataType) (wa : WhereAttr) (tp : TypePath)
    (hwa : wa ∈ input.attrs.whereAttrs) (hty : wa.containerTy = some tp)
    (hunk : (input.attrs.attrs.map (·.core.ty)).contains tp = false) :
    noMatch tp ∈ validate input := by
  obtain ⟨pre, post, hsplit⟩ := List.append_of_mem (List.mem_filterMap.mpr ⟨wa, hwa, hty⟩)
  refine validate_of_where input _ fun es => ?_
  unfold validateWhereAttrs
  exact hsplit ▸ dedicatedLoop_reports_unknown pre post tp _ _ _ hunk

/-- C15 (struct update syntax outside a struct expression, end to end): `..expr` on an instruction that requests an
    into_existing conversion is reported, whichever of the instructions it is and whatever else the input holds -/
theorem C15_update_into_existing_reported (input : DataType) (a : TraitAttrCore) (k : Kind) (u : TS)
    (hx : (a, k) ∈ attrsByKind input.attrs) (hu : a.update = some u) (hk : k.isIntoExisting = true) :
    "Struct update syntax '..' is not applicable to 'into_existing' instructions: there is no struct expression to complete." ∈ validate input := by
  refine validate_of_update input _ (a, k) hx fun es => ?_
  have hf : k.isFrom = false := by cases k <;> simp_all [Kind.isFrom, Kind.isIntoExisting]
  simp only [updatePass, hu, hk, hf, Option.isSome_some, Bool.not_false, Bool.and_self, if_true]
  exact mem_insert_self

/-- … and so is `..expr` on an Into instruction whose counterpart is built from its default value (a parameterless
    `#[parent]` member) -/
theorem C15_update_next_to_parent_reported (input : DataType) (a : TraitAttrCore) (k : Kind) (u : TS)
    (hx : (a, k) ∈ attrsByKind input.attrs) (hu : a.update = some u) (hf : k.isFrom = false) (hk : k.isIntoExisting = false)
    (hp : input.members.any (fun m => m.attrs.hasParameterlessParentAttr a.ty) = true) :
    ("Struct update syntax '..' is not applicable next to a parameterless #[parent] member: " ++ a.ty.pathStr ++ " is built from its default value.") ∈ validate input := by
  refine validate_of_update input _ (a, k) hx fun es => ?_
  simp only [updatePass, hu, hk, hf, hp, Option.isSome_some, Bool.not_false, Bool.and_self, if_true, Bool.false_eq_true, if_false]
  exact mem_insert_self

/-- C17 / C08 consequence: in an accepted input `..expr` only ever meets a struct expression — a From conversion, or an
    Into conversion in the plain dialect -/
theorem C15_accepted_update_has_struct_expression (input : DataType) (hv : validate input = [])
    (a : TraitAttrCore) (k : Kind) (u : TS) (hx : (a, k) ∈ attrsByKind input.attrs) (hu : a.update = some u) :
    k.isFrom = true ∨ (k.isIntoExisting = false ∧ input.members.any (fun m => m.attrs.hasParameterlessParentAttr a.ty) = false) := by
  cases hf : k.isFrom with
  | true => exact Or.inl rfl
  | false =>
    right
    cases hk : k.isIntoExisting with
    | true => exact (not_reported hv (C15_update_into_existing_reported input a k u hx hu hk)).elim
    | false =>
      refine ⟨rfl, ?_⟩
      cases hp : input.members.any (fun m => m.attrs.hasParameterlessParentAttr a.ty) with
      | false => rfl
      | true => exact (not_reported hv (C15_update_next_to_parent_reported input a k u hx hu hf hk hp)).elim

def armKindOf (arms : List Gen.Arm) (n : String) (own bark : Bool) : Option Gen.ArmKind := (findArm arms n own bark).map (·.kind)

/-- names that are instructions only at member / variant level -/
def memberOnlyNames : List String := ["parent", "as_type", "literal", "pattern", "repeat", "skip_repeat", "stop_repeat", "type_hint"]
/-- names that are instructions only at type level -/
def typeOnlyNames : List String := ["where_clause", "allow_unknown"]

/-- C15 (R5/R6, dispatch): (1) a member-level name written at type level, and a type-level name written on a member, is
    answered with the *misplaced* diagnostic whenever diagnostics are on (`bark`), in the bare spelling and inside
    `#[o2o(..)]` alike, and is ignored as a foreign attribute only when written bare after `allow_unknown`;
    (2) the near-miss names get the documented suggestion (`children`/`child` → `child_parents` and `ghost*` → `ghosts*`
    at type level, `children`/`child_parents` → `child` at member level); (3) every real instruction is accepted in every
    spelling, `allow_unknown` only inside `#[o2o(..)]`; (4) any other name is an error inside `#[o2o(..)]` and a foreign
    attribute when bare -/
theorem C15_level_dispatch :
    (memberOnlyNames.all (fun n => [true, false].all fun own =>
        armKindOf Gen.typeArms n own true == some .misplaced && armKindOf Gen.typeArms n false false == some .unrecognized)
     && typeOnlyNames.all (fun n => [true, false].all fun own =>
        armKindOf Gen.memberArms n own true == some .misplaced && armKindOf Gen.memberArms n false false == some .unrecognized)
     && [("children", "child_parents"), ("child", "child_parents"), ("ghost", "ghosts"), ("ghost_ref", "ghosts_ref"), ("ghost_owned", "ghosts_owned")].all
          (fun (n, g) => [true, false].all fun own => armKindOf Gen.typeArms n own true == some (.misnamed g))
     && [("children", "child"), ("child_parents", "child")].all
          (fun (n, g) => [true, false].all fun own => armKindOf Gen.memberArms n own true == some (.misnamed g))
     && [("child_parents", Gen.ArmKind.childParents), ("where_clause", .whereClause), ("ghosts", .ghosts), ("ghosts_owned", .ghosts), ("ghosts_ref", .ghosts)].all
          (fun (n, k) => [true, false].all fun own => [true, false].all fun bark => armKindOf Gen.typeArms n own bark == some k)
     && [("child", Gen.ArmKind.child), ("parent", .parent), ("as_type", .asType), ("literal", .lit), ("pattern", .pat), ("repeat", .repeat_),
         ("skip_repeat", .skipRepeat), ("stop_repeat", .stopRepeat), ("type_hint", .typeHint), ("ghost", .ghost), ("ghost_owned", .ghost),
         ("ghost_ref", .ghost), ("ghosts", .ghosts), ("ghosts_owned", .ghosts), ("ghosts_ref", .ghosts)].all
          (fun (n, k) => [true, false].all fun own => [true, false].all fun bark => armKindOf Gen.memberArms n own bark == some k)
     && [true, false].all (fun bark => armKindOf Gen.typeArms "allow_unknown" true bark == some .allowUnknown
          && armKindOf Gen.typeArms "allow_unknown" false bark == some .unrecognized)
     && [Gen.typeArms, Gen.memberArms].all (fun arms => [true, false].all fun bark =>
          armKindOf arms "zq_no_such_instruction" true bark == some .unrecognizedWithError
          && armKindOf arms "zq_no_such_instruction" false bark == some .unrecognized)) = true := by decide +kernel

end O2o
