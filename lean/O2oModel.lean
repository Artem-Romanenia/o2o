import O2oModel.Tok
import O2oModel.GenTypes
import O2oModel.Syn
import O2oModel.Generated
import O2oModel.Attr
import O2oModel.Ast
import O2oModel.Validate
import O2oModel.Expand
import O2oModel.WF
import O2oModel.Lemmas.Basic
import O2oModel.Lemmas.TokEq
import O2oModel.Lemmas.Lookup
import O2oModel.Lemmas.Errors
import O2oModel.Lemmas.Descent
import O2oModel.Lemmas.Blocks
import O2oModel.Lemmas.Tree
import O2oModel.Lemmas.TreeN
import O2oModel.Lemmas.Grouping
import O2oModel.Lemmas.Members
import O2oModel.Lemmas.Lines
import O2oModel.Lemmas.NoPanic
import O2oModel.Sem
import O2oModel.Lemmas.Sem
import O2oModel.Props.C01
import O2oModel.Props.C02
import O2oModel.Props.C03
import O2oModel.Props.C04
import O2oModel.Props.C04b
import O2oModel.Props.C05
import O2oModel.Props.C06
import O2oModel.Props.C06b
import O2oModel.Props.C07
import O2oModel.Props.C08
import O2oModel.Props.C09
import O2oModel.Props.C10
import O2oModel.Props.C11
import O2oModel.Props.C12
import O2oModel.Props.C13
import O2oModel.Props.C13b
import O2oModel.Props.C14
import O2oModel.Props.C15
import O2oModel.Props.C16
import O2oModel.Props.C16b
import O2oModel.Props.C16c
import O2oModel.Props.C16d
import O2oModel.Props.C16e
import O2oModel.Props.C17
import O2oModel.Props.C18
import O2oModel.Props.C19
import O2oModel.Props.C20
